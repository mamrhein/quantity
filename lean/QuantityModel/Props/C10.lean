/-
C10 — applying an exchange rate converts money and prices correctly.
-/
import QuantityModel.Proofs.UnitOps
import QuantityModel.Proofs.Quantity
namespace QM.Props.C10

variable {s : QState} {d : Rounding}

/-- money × rate (either order): the unit currency must be the money's
currency; the result is money in the term currency, the exact product rounded
once to that currency's smallest fraction -/
theorem money_times_rate (m : Qty) (r : Rate) (h : m.unit = r.unitCur) (f : ℚ)
    (hcls : s.reg.unitCls m.unit = s.reg.unitCls r.termCur)
    (hq : s.reg.unitQuantum r.termCur = some f) (hf : f ≠ 0) :
    s.moneyTimesRate d m r = .ok ⟨(roundQ d (m.amount * r.rate / f) : ℚ) * f, r.termCur⟩ := by
  unfold QState.moneyTimesRate
  simp only [h, beq_self_eq_true, ↓reduceIte]
  rw [← h]
  exact mkQty_quantum hcls hq hf

/-- money / rate: the term currency must match; result in the unit currency
via the exact inverse rate, rounded once -/
theorem money_div_rate (m : Qty) (r : Rate) (h : m.unit = r.termCur) (f : ℚ)
    (hcls : s.reg.unitCls m.unit = s.reg.unitCls r.unitCur)
    (hq : s.reg.unitQuantum r.unitCur = some f) (hf : f ≠ 0) :
    s.moneyDivRate d m r = .ok ⟨(roundQ d (m.amount * r.inverseRate / f) : ℚ) * f, r.unitCur⟩ := by
  unfold QState.moneyDivRate
  simp only [h, beq_self_eq_true, ↓reduceIte]
  rw [← h]
  exact mkQty_quantum hcls hq hf

/-- a non-matching currency is rejected with ValueError -/
theorem wrong_currency_rejected (m : Qty) (r : Rate) :
    (m.unit ≠ r.unitCur → s.moneyTimesRate d m r = .error .ValueError) ∧
    (m.unit ≠ r.termCur → s.moneyDivRate d m r = .error .ValueError) := by
  constructor <;> intro h
  · unfold QState.moneyTimesRate; simp [h]
  · unfold QState.moneyDivRate; simp [h]

/-- prices (a quantity whose unit is defined with a currency): the resolved
target unit `w` and factor `f` are worth exactly the price's unit with the
currency replaced — `f · w = unit(p) · term / unit` (`unit / term` for
`price / rate`) under every admissible valuation — so the amount
`f · rate · a` scales the value by exactly the rate -/
private theorem price_unit_value_of {ν : Nat → ℚ} (hA : Admissible s.reg ν) (hT : TermMapSound s.reg)
    (p : Qty) (r : Rate) (inv : Bool) (f : ℚ) (w : Option Nat)
    (h : s.reg.amntAndUnit (s.priceTerm p r inv) = some (f, w)) :
    f * optVal ν w = den ν (s.unitDefn p.unit) *
      if inv then ν r.unitCur / ν r.termCur else ν r.termCur / ν r.unitCur := by
  rw [amntAndUnit_sound s.reg ν hA hT _ f w h]
  unfold QState.priceTerm mulTerm
  rw [den_reduceItems _ ν hA.nz hA.resp, den_append, den_mkTerm _ ν hA.nz hA.resp]
  cases inv <;> simp [evalElem, div_eq_mul_inv]

/-- `price * rate`: the resolved unit is worth the price's unit with the rate's
unit currency replaced by its term currency -/
theorem price_unit_value {ν : Nat → ℚ} (hA : Admissible s.reg ν) (hT : TermMapSound s.reg)
    (p : Qty) (r : Rate) (f : ℚ) (w : Option Nat)
    (h : s.reg.amntAndUnit (s.priceTerm p r false) = some (f, w)) :
    f * optVal ν w = den ν (s.unitDefn p.unit) * (ν r.termCur / ν r.unitCur) :=
  price_unit_value_of hA hT p r false f w h

/-- `price / rate`: the other way round -/
theorem price_unit_value_inverse {ν : Nat → ℚ} (hA : Admissible s.reg ν) (hT : TermMapSound s.reg)
    (p : Qty) (r : Rate) (f : ℚ) (w : Option Nat)
    (h : s.reg.amntAndUnit (s.priceTerm p r true) = some (f, w)) :
    f * optVal ν w = den ν (s.unitDefn p.unit) * (ν r.unitCur / ν r.termCur) :=
  price_unit_value_of hA hT p r true f w h

/-- the amount of the result is `f · rate · a`, constructed once in the
resolved unit of the price's own class -/
theorem price_amount (p : Qty) (r : Rate) (f : ℚ) (w : Nat)
    (h : s.reg.amntAndUnit (s.priceTerm p r false) = some (f, some w)) :
    s.priceTimesRate d p r false =
      s.reg.mkQty d (some (s.reg.unitCls p.unit)) (f * r.rate * p.amount) w := by
  unfold QState.priceTimesRate; simp [h]

/-- the target compound unit has not been declared (or the price's currency
does not match the rate, or no money is involved): QuantityError -/
theorem undeclared_target_rejected (p : Qty) (r : Rate) (inv : Bool)
    (h : s.reg.amntAndUnit (s.priceTerm p r inv) = none) :
    s.priceTimesRate d p r inv = .error .QuantityError := by
  unfold QState.priceTimesRate; simp [h]

/-- the resolved unit belongs to another class than the price: QuantityError
(raised by the constructor) -/
theorem target_of_other_class_rejected (p : Qty) (r : Rate) (inv : Bool) (f : ℚ) (w : Nat)
    (h : s.reg.amntAndUnit (s.priceTerm p r inv) = some (f, some w))
    (hc : s.reg.unitCls p.unit ≠ s.reg.unitCls w) :
    s.priceTimesRate d p r inv = .error .QuantityError := by
  unfold QState.priceTimesRate
  simp only [h]
  exact mkQty_other_class hc

end QM.Props.C10
