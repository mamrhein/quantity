/-
C12 — converter registration is last-in-first-out and restores prior behaviour.
`Money._converters` is a list of converter identities, most recent last.
-/
import QuantityModel.Model.Money
namespace QM.Props.C12

/-- `register_converter` / `__enter__`: the model's `stackPush` (what the driver
executes against the real `Money` class) -/
abbrev push := stackPush

/-- removing the most recently registered converter succeeds and undoes its
registration -/
theorem remove_top (stack : List Nat) (c : Nat) :
    stackRemove (push stack c) c = (stack, .ok ()) := by
  simp [stackRemove, push, stackPush]

/-- a converter other than the most recent one cannot be unregistered: the
attempt raises and changes nothing -/
theorem remove_non_top_rejected (stack : List Nat) (top c : Nat) (h : top ≠ c) :
    stackRemove (push stack top) c = (push stack top, .error .ValueError) := by
  simp [stackRemove, push, stackPush, h]

/-- nothing registered: IndexError, nothing changes -/
theorem remove_from_empty : stackRemove [] c = ([], .error .IndexError) := by
  simp [stackRemove]

/-- conversions consult the most recently registered converter still active -/
theorem top_is_consulted (stack : List Nat) (c : Nat) :
    (push stack c).reverse.head? = some c := by simp [push, stackPush]

/-- programs over the stack: converts (no effect on the stack), and
`with c: body` blocks whose body ends normally or by an exception at any point -/
inductive Prog where
  | skip
  | seq (p q : Prog)
  | convert                       -- any conversion / arithmetic
  | withBlock (c : Nat) (body : Prog)
  | raise                         -- an exception is raised here

/-- run: returns the stack and whether an exception is propagating.
`__exit__` runs on both kinds of exit and does not swallow the exception. -/
def run : Prog → List Nat → List Nat × Bool
  | .skip, s => (s, false)
  | .convert, s => (s, false)
  | .raise, s => (s, true)
  | .seq p q, s =>
    let (s', exc) := run p s
    if exc then (s', true) else run q s'
  | .withBlock c body, s =>
    let (s', exc) := run body (push s c)
    ((stackRemove s' c).1, exc)

/-- for every well-nested program — normal or exceptional exit at any point of
any body — the stack after equals the stack before: conversion behaves as
before the first block was entered -/
theorem with_blocks_restore_stack (p : Prog) (s : List Nat) : (run p s).1 = s := by
  induction p generalizing s with
  | skip | convert | raise => rfl
  | seq p q ihp ihq =>
    have hp : run p s = (s, (run p s).2) := Prod.ext (ihp s) rfl
    rw [run, hp]
    dsimp only
    split
    · rfl
    · exact ihq s
  | withBlock c body ih =>
    have hb : run body (push s c) = (push s c, (run body (push s c)).2) := Prod.ext (ih _) rfl
    rw [run, hb]
    exact congrArg Prod.fst (remove_top s c)

/-- generic (non-money) types: registration is idempotent and removal restores
the previous list (`registerGeneric` / `removeGeneric` are the model functions
the driver executes against `register_converter` / `remove_converter`) -/
theorem register_twice_no_effect (l : List Nat) (c : Nat) :
    registerGeneric (registerGeneric l c) c = registerGeneric l c := by
  unfold registerGeneric
  simp only [List.contains_eq_mem, decide_eq_true_eq]
  by_cases h : c ∈ l <;> simp [h]

theorem remove_restores (l : List Nat) (c : Nat) (h : c ∉ l) :
    removeGeneric (registerGeneric l c) c = some l := by
  simp [registerGeneric, removeGeneric, h, List.erase_append_right]

/-- a converter that is not registered cannot be removed: ValueError, nothing changes -/
theorem remove_unregistered_rejected (l : List Nat) (c : Nat) (h : c ∉ l) :
    removeGeneric l c = none := by
  unfold removeGeneric
  simp [h]

/-- non-vacuity: nested blocks with an exception in the inner body -/
example : run (.withBlock 1 (.seq .convert (.withBlock 2 (.seq .convert .raise)))) [7] = ([7], true) := by
  decide

end QM.Props.C12
