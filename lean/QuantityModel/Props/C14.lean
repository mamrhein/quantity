/-
C14 — table (affine) converters are exact, invertible and mutually consistent.
`Gen.tempTable` is regenerated from predefined.py's `_temp_conv` on every run.
-/
import QuantityModel.Model.Converters
import QuantityModel.Gen.TempTable
import QuantityModel.Proofs.Quantity
import QuantityModel.Proofs.Lists
namespace QM.Props.C14

variable {κ : Type} [BEq κ]

/-- a tabulated pair applies exactly `amount * factor + offset` -/
theorem direct_row_applies (rows : List (Row κ)) (u v : κ) (f o a : ℚ)
    (h : rowLookup rows u v = some (f, o)) : tableConvert rows u v a = some (f * a + o) := by
  unfold tableConvert; simp [h]

/-- only the opposite direction tabulated: the exact inverse -/
theorem reverse_row_applies (rows : List (Row κ)) (u v : κ) (f o a : ℚ)
    (h₁ : rowLookup rows u v = none) (h₂ : rowLookup rows v u = some (f, o)) :
    tableConvert rows u v a = some ((a - o) / f) := by
  unfold tableConvert; simp [h₁, h₂]

/-- neither direction tabulated: no answer (→ UnitConversionError) -/
theorem no_row_no_answer (rows : List (Row κ)) (u v : κ) (a : ℚ)
    (h₁ : rowLookup rows u v = none) (h₂ : rowLookup rows v u = none) :
    tableConvert rows u v a = none := by
  unfold tableConvert; simp [h₁, h₂]

/-- list form: the last row for a pair wins -/
theorem last_row_wins [LawfulBEq κ] (rows : List (Row κ)) (r : Row κ) :
    rowLookup (rows ++ [r]) r.src r.dst = some (r.factor, r.offset) := by
  unfold rowLookup; simp

/-- a pair tabulated in ONE direction round-trips identically, for every amount -/
theorem one_direction_round_trip (rows : List (Row κ)) (u v : κ) (f o a : ℚ) (hf : f ≠ 0)
    (h₁ : rowLookup rows u v = some (f, o)) (h₂ : rowLookup rows v u = none) :
    (tableConvert rows u v a).bind (tableConvert rows v u) = some a := by
  rw [direct_row_applies rows u v f o a h₁, Option.bind_some,
    reverse_row_applies rows v u f o _ h₂ h₁, add_sub_cancel_right, mul_div_cancel_left₀ _ hf]

/-- a pair tabulated in BOTH directions round-trips when the two rows are
inverse to each other -/
theorem two_direction_round_trip (rows : List (Row κ)) (u v : κ) (f o f' o' a : ℚ)
    (h₁ : rowLookup rows u v = some (f, o)) (h₂ : rowLookup rows v u = some (f', o'))
    (hc : f * f' = 1) (ho : o' = -(o * f')) :
    (tableConvert rows u v a).bind (tableConvert rows v u) = some a := by
  rw [direct_row_applies rows u v f o a h₁, Option.bind_some,
    direct_row_applies rows v u f' o' _ h₂, ho]
  have : f' * (f * a + o) + -(o * f') = (f * f') * a := by ring
  rw [this, hc, one_mul]

/-- going through a third unit equals the direct conversion when the three
rows compose -/
theorem via_third_unit (rows : List (Row κ)) (u v w : κ) (f₁ o₁ f₂ o₂ f₃ o₃ a : ℚ)
    (h₁ : rowLookup rows u v = some (f₁, o₁)) (h₂ : rowLookup rows v w = some (f₂, o₂))
    (h₃ : rowLookup rows u w = some (f₃, o₃)) (hf : f₃ = f₂ * f₁) (ho : o₃ = f₂ * o₁ + o₂) :
    (tableConvert rows u v a).bind (tableConvert rows v w) = tableConvert rows u w a := by
  rw [direct_row_applies rows u v f₁ o₁ a h₁, direct_row_applies rows u w f₃ o₃ a h₃,
    Option.bind_some, direct_row_applies rows v w f₂ o₂ _ h₂, hf, ho]
  congr 1; ring

def tempRows : List (Row String) :=
  Gen.tempTable.map fun (f, t, k, o) => { src := f, dst := t, factor := k, offset := o }

/-- all six rows are pairwise inverse and compose: hence (by the theorems
above) round trips are identical and going through a third unit equals the
direct conversion for ALL amounts -/
theorem temperature_table_consistent :
    inverseConsistent tempRows = true ∧ triangleConsistent tempRows = true ∧
    tempRows.length = 6 := by decide +kernel

/-- every ordered pair of distinct temperature units is tabulated -/
theorem temperature_table_complete :
    (["°C", "°F", "K"].all fun u => ["°C", "°F", "K"].all fun v =>
      u == v || (rowLookup tempRows u v).isSome) = true := by decide +kernel

theorem temperature_fixed_points :
    tableConvert tempRows "°C" "K" 0 = some (27315 / 100) ∧
    tableConvert tempRows "°C" "°F" 0 = some 32 ∧
    tableConvert tempRows "°C" "°F" (-40) = some (-40) ∧
    tableConvert tempRows "°F" "°C" (-40) = some (-40) ∧
    tableConvert tempRows "K" "°F" 0 = some (-45967 / 100) ∧
    tableConvert tempRows "K" "°C" 0 = some (-27315 / 100) ∧
    tableConvert tempRows "°F" "K" 32 = some (27315 / 100) := by decide +kernel

open QM.QState

/-- the rows of a registered table converter as `Row`s -/
def toRows (t : ConvTable) : List (Row Nat) :=
  t.rows.map fun r => ⟨r.1.1, r.1.2, r.2.1, r.2.2⟩

theorem rowLookup_toRows (t : ConvTable) (u v : Nat) :
    rowLookup (toRows t) u v = t.rows.reverse.lookup (u, v) := by
  rw [rowLookup, toRows, ← List.map_reverse, List.find?_map, Option.map_map, lookup_eq_find?]
  rfl

/-- **the table look-up of the quantity model is the `tableConvert` the C14
theorems are about** — so everything proved above (direct / reverse rows, last
row wins, round trips, composition) holds for `Quantity.convert` through a
registered table converter -/
theorem tableLookup_eq_tableConvert (t : ConvTable) (u v : Nat) (a : ℚ) :
    tableLookup t u v a = tableConvert (toRows t) u v a := by
  simp only [tableConvert, rowLookup_toRows]; rfl

/-- `Quantity.convert` in a type without reference unit whose only registered
converter is the table `t`: exactly what the table says, UnitConversionError
where it says nothing -/
theorem convert_through_table {s : QState} {d : Rounding} {q : Qty} {v : Nat} (tid : Nat)
    (hc : s.reg.unitCls q.unit = s.reg.unitCls v) (hne : q.unit ≠ v)
    (href : (s.reg.cls (s.reg.unitCls q.unit)).refUnit = none)
    (hmoney : (s.reg.cls (s.reg.unitCls q.unit)).isMoney = false)
    (hconv : s.clsConverters (s.reg.unitCls q.unit) = [tid])
    (hq : s.reg.unitQuantum v = none) :
    s.convert d q v =
      match tableConvert (toRows (s.tables.getD tid default)) q.unit v q.amount with
      | some a => .ok ⟨a, v⟩
      | none => .error .UnitConversionError := by
  rw [QState.convert, equivAmount_noFactor (.of_noRef hc hne href), hmoney, hconv]
  simp only [Bool.false_eq_true, ↓reduceIte, List.reverse_singleton, equivAmount.tryConv,
    QState.applyTable, beq_eq_false_iff_ne.mpr hne, hc, beq_self_eq_true,
    tableLookup_eq_tableConvert]
  cases tableConvert (toRows (s.tables.getD tid default)) q.unit v q.amount with
  | none => rfl
  | some a => exact mkQty_no_quantum rfl hq

end QM.Props.C14
