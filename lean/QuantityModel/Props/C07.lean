/-
C07 — term algebra is an exact commutative group with a canonical form.

`den ν t` is the value a term denotes under a valuation `ν` of its elements;
the value theorems hold for *all* admissible valuations (no element worth zero,
convertible elements related by their factor, derived elements worth their
definition).  The free-group reading (`numVal`, `expOf`: the rational factor and
the exponent of every base element) has theorems of its own; no theorem
connects the two readings.  Exactness is by construction: numeric items of the
model are `Rat`; the implementation side of the correspondence check reports
the Python type of every numeric item (a float is an oracle failure).
-/
import QuantityModel.Proofs.RefUnique
namespace QM.Props.C07

variable (env : Env) (ν : Nat → ℚ)

/-- Item reduction (every `n_items` shortcut, both `keep_item_order` modes)
preserves the denoted value. -/
theorem reduce_preserves_value (hν : NonZero ν) (hr : Respects env ν)
    (items : Items) (n : Option Nat) (keep : Bool) :
    den ν (reduceItems env items n keep) = den ν items :=
  den_reduceItems env ν hν hr items n keep

theorem normalize_preserves_value (hν : NonZero ν) (hr : Respects env ν)
    (hd : RespectsDefs env ν) (t : Items) :
    den ν (termNormalized env t) = den ν t :=
  den_termNormalized env ν hν hr hd t

/-- Product, quotient, reciprocal and integer power compute the group
operation; rational scalars act on either side. -/
theorem mul_is_product (hν : NonZero ν) (hr : Respects env ν) (t₁ t₂ : Items) :
    den ν (mulTerm env t₁ t₂) = den ν t₁ * den ν t₂ := by
  unfold mulTerm; rw [den_reduceItems env ν hν hr, den_append]

theorem div_is_quotient (hν : NonZero ν) (hr : Respects env ν) (t₁ t₂ : Items) :
    den ν (divTerm env t₁ t₂) = den ν t₁ / den ν t₂ := by
  unfold divTerm; rw [den_reduceItems env ν hν hr, den_append, den_reciprocal, div_eq_mul_inv]

theorem reciprocal_is_inverse (t : Items) :
    den ν (reciprocalItems t) = (den ν t)⁻¹ := den_reciprocal ν t

theorem pow_is_power (hν : NonZero ν) (hr : Respects env ν) (t : Items) (n : ℤ) :
    den ν (powTerm env t n) = den ν t ^ n := by
  unfold powTerm
  simp only
  split
  · rename_i h
    simp only [List.isEmpty_iff, List.map_eq_nil_iff] at h
    simp [h]
  · rw [den_reduceItems env ν hν hr, den_map_exp ν t (n * ·) n fun _ => mul_comm ..]

theorem scalar_mul (hν : NonZero ν) (hr : Respects env ν) (q : ℚ) (t : Items) :
    den ν (scaleTerm env q t) = q * den ν t := by
  unfold scaleTerm; rw [den_reduceItems env ν hν hr]; simp [evalElem]

theorem scalar_div (hν : NonZero ν) (hr : Respects env ν) (q : ℚ) (t : Items) :
    den ν (divScalar env t q) = den ν t / q := by
  unfold divScalar; rw [den_reduceItems env ν hν hr]; simp [evalElem]; ring

theorem scalar_rdiv (hν : NonZero ν) (hr : Respects env ν) (q : ℚ) (t : Items) :
    den ν (rdivScalar env q t) = q / den ν t := by
  unfold rdivScalar; rw [den_reduceItems env ν hν hr]; simp [evalElem, den_reciprocal]; ring

/-- Equality is sound: terms that compare equal denote the same value under
every admissible valuation. -/
theorem eq_sound (hν : NonZero ν) (hr : Respects env ν) (hd : RespectsDefs env ν)
    (t₁ t₂ : Items) (h : termEq env t₁ t₂ = true) : den ν t₁ = den ν t₂ := by
  unfold termEq at h
  have h' : termNormalized env t₁ = termNormalized env t₂ := by simpa using h
  rw [← den_termNormalized env ν hν hr hd t₁, ← den_termNormalized env ν hν hr hd t₂, h']

/-- Equal terms hash equal (the code hashes the item tuple of the normal form;
Python's `hash` of equal tuples of equal numbers/identical objects is trusted). -/
theorem eq_implies_same_hash_key (t₁ t₂ : Items) (h : termEq env t₁ t₂ = true) :
    termHashKey env t₁ = termHashKey env t₂ := by
  unfold termEq at h; unfold termHashKey; simpa using h

/-- `num_elem` / `split` agree with the denotation. -/
theorem split_agrees (hν : NonZero ν) (hr : Respects env ν) (t : Items) :
    (splitTerm env t).1 * den ν (splitTerm env t).2 = den ν t :=
  den_splitTerm env ν hν hr t

/-- The general path returns at most one numeric item: it comes first, has
exponent 1 and is not 1; everything after it is non-numeric. -/
theorem normal_form_numeric_part (items : Items) (keep : Bool) :
    (∀ it ∈ (reduceGeneral env items keep).tail, ∃ a, it.1 = Elem.atom a) ∧
    (∀ q e, (reduceGeneral env items keep).head? = some (Elem.num q, e) → e = 1 ∧ q ≠ 1) := by
  refine ⟨reduceGeneral_tailAtoms env items keep, fun q e hq => ?_⟩
  rw [reduceGeneral_eq, numPrefix] at hq
  split at hq
  · rename_i h
    obtain ⟨rfl, rfl⟩ : _ = q ∧ 1 = e := by simpa using hq
    exact ⟨rfl, by simpa using h⟩
  · simp [atomItems] at hq

/-- Reducing the items of an already reduced term again (general path,
`keep_item_order=False`) changes nothing. -/
theorem reduce_idempotent (hk : KeysNonneg env) (items : Items) :
    reduceGeneral env (reduceGeneral env items false) false = reduceGeneral env items false := by
  obtain ⟨q, l, h, hl, _⟩ := reduceGeneral_shape env hk items
  rw [h]; exact reduceGeneral_fixed env hk q l hl false

/-- **Normalisation is idempotent**: the normal form of a normal form is that
normal form (so the cached `_normalized` of a normal form may point to itself).
Hypotheses: sort keys are not negative (the code reserves -1 for numbers) and
stored normalised definitions mention base elements only; both hold in every
reachable registry (`normalize_idempotent_reachable`). -/
theorem normalize_idempotent (hk : KeysNonneg env) (hdb : DefsBaseOnly env) (t : Items) :
    termNormalized env (termNormalized env t) = termNormalized env t := by
  unfold termNormalized
  by_cases hm : markedNormal env t = true
  · rw [if_pos hm, if_pos hm]
  · rw [if_neg hm]
    split
    · rfl
    · have hb := normalizedItems_baseOnly env t hdb
      unfold normalizedItems at hb ⊢
      rw [iterNormalized_of_baseOnly env normFuel _ hb]
      exact reduce_idempotent env hk _

/-- **The canonical form**: normalising yields at most one numeric item — in
front, with exponent 1 and ≠ 1 — followed by base elements only, in ascending
order of their sort keys, each at most once, each with a non-zero exponent. -/
theorem normal_form (hk : KeysNonneg env) (hdb : DefsBaseOnly env) (t : Items) :
    ∃ (q : ℚ) (l : List (Nat × Int)),
      normalizedItems env t = (if q != 1 then [(Elem.num q, 1)] else []) ++ atomItems l ∧
      (l.map Prod.fst).Pairwise (fun a b => (env.info a).key ≤ (env.info b).key) ∧
      (l.map Prod.fst).Nodup ∧
      (∀ p ∈ l, p.2 ≠ 0) ∧ (∀ p ∈ l, (env.info p.1).isBase = true) := by
  obtain ⟨q, l, h, hl, hat⟩ := reduceGeneral_shape env hk (iterNormalized env normFuel t)
  exact ⟨q, l, h, ((pairwise_RNF_iff env l).mp hl.1).imp fun hab => hab.1, nodup_fst_of_RNF env l hl.1,
    hl.2, fun p hp => iterNormalized_baseOnly env _ t hdb p.1 (hat p hp)⟩

/-- In every registry reachable by well-formed declarations the two hypotheses
hold: unit terms there normalise idempotently and to the canonical form. -/
theorem normalize_idempotent_reachable (s : RegState) (h : ReachableWF s) (t : Items) :
    termNormalized s.unitEnv (termNormalized s.unitEnv t) = termNormalized s.unitEnv t :=
  normalize_idempotent _ (keysNonneg_unitEnv s) (defsBaseOnly_of_scaleInv s (reachableWF_scaleInv h)) t

theorem normal_form_reachable (s : RegState) (h : ReachableWF s) (t : Items) :
    ∃ (q : ℚ) (l : List (Nat × Int)),
      normalizedItems s.unitEnv t = (if q != 1 then [(Elem.num q, 1)] else []) ++ atomItems l ∧
      (l.map Prod.fst).Pairwise (fun a b => (s.unitEnv.info a).key ≤ (s.unitEnv.info b).key) ∧
      (l.map Prod.fst).Nodup ∧
      (∀ p ∈ l, p.2 ≠ 0) ∧ (∀ p ∈ l, (s.unitEnv.info p.1).isBase = true) :=
  normal_form _ (keysNonneg_unitEnv s) (defsBaseOnly_of_scaleInv s (reachableWF_scaleInv h)) t

/-- Building a term from the items of a (factor-free) normal form gives the same
items again, although `Term.__init__` reduces with `keep_item_order=True`
(keys by first occurrence) while normalisation reduces by sort key. -/
theorem construct_from_normal_form (hk : KeysNonneg env) (l : List (Nat × Int))
    (hl : AtomsNF env l)
    (hnc : ∀ p ∈ l, ∀ q ∈ l, p.1 ≠ q.1 → getFactor env q.1 p.1 = none) :
    mkTerm env (atomItems l) = atomItems l :=
  mkTerm_fixed env hk l hl hnc

/-- **Equal exactly when they denote the same thing.**  `numVal (expanded t)`
is the rational factor of `t` and `expOf a (expanded t)` the exponent of the
base element `a` after every derived element has been replaced by its
definition.  Two constructed terms compare equal iff these agree — provided
distinct base elements are not convertible into each other and no two
distinct base elements occurring in the two terms share a sort key.  The second
proviso is exactly what known finding D5 violates (two units of a type without
reference unit share their type's key); where it holds the statement is an
equivalence, not only `eq_sound`. -/
theorem eq_iff_same_factor_and_exponents (hk : KeysNonneg env) (hdb : DefsBaseOnly env)
    (hnc : BaseNoConv env) (t₁ t₂ : Items) (hinj : KeysSeparate env t₁ t₂)
    (h₁ : Clean t₁) (h₂ : Clean t₂) :
    termEq env t₁ t₂ = true ↔
      (numVal (expanded env t₁) = numVal (expanded env t₂) ∧
       ∀ a, expOf a (expanded env t₁) = expOf a (expanded env t₂)) :=
  termEq_iff env hk hdb hnc t₁ t₂ hinj h₁ h₂

/-- the same for normal forms of arbitrary item lists -/
theorem normal_forms_equal_iff (hk : KeysNonneg env) (hdb : DefsBaseOnly env)
    (hnc : BaseNoConv env) (t₁ t₂ : Items) (hinj : KeysSeparate env t₁ t₂) :
    normalizedItems env t₁ = normalizedItems env t₂ ↔
      (numVal (expanded env t₁) = numVal (expanded env t₂) ∧
       ∀ a, expOf a (expanded env t₁) = expOf a (expanded env t₂)) :=
  normalizedItems_eq_iff env hk hdb hnc t₁ t₂ hinj

/-- Reduction (either `keep_item_order` mode) changes neither the factor nor
any exponent of a list of pairwise non-convertible elements. -/
theorem reduce_preserves_factor_and_exponents (hnc : BaseNoConv env) (items : Items)
    (hb : BaseOnly env items) (keep : Bool) :
    numVal (reduceGeneral env items keep) = numVal items ∧
    ∀ a, expOf a (reduceGeneral env items keep) = expOf a items :=
  (rew_reduceGeneral env items keep).sem hnc hb

/-! ### Known finding D5 (kept visible): completeness of equality fails for
non-convertible elements sharing a sort key.  The *full* statement
"terms are equal exactly when they denote the same value" is false of the code;
`eq_sound` above is the provable half.  Negation witness (two reference-less
base elements 0 and 1 of one class, as two currencies): -/

def d5env : Env := { atoms := [
  { key := 5, group := 0, scale := none, isBase := true, normDef := [] },
  { key := 5, group := 0, scale := none, isBase := true, normDef := [] }] }

theorem eq_complete_FALSE_same_key_order :
    (∀ ν : Nat → ℚ, den ν [(.atom 0, 1), (.atom 1, -1)] = den ν [(.atom 1, -1), (.atom 0, 1)]) ∧
    termEq d5env (mkTerm d5env [(.atom 0, 1), (.atom 1, -1)])
                 (mkTerm d5env [(.atom 1, -1), (.atom 0, 1)]) = false := by
  refine ⟨fun ν => by simp [evalElem, mul_comm], by decide +kernel⟩

/-- In every registry reachable by declarations — valid or rejected, in any
order — two distinct base units are never convertible into each other: a base
unit that carries a scale is the reference unit of its type
(Proofs/RefUnique.lean).  This is the hypothesis `hnc` of the equivalence above. -/
theorem distinct_base_units_not_convertible_reachable (s : RegState) (h : Reachable s) :
    BaseNoConv s.unitEnv :=
  reachable_baseNoConv h

/-- **The equivalence without any hypothesis on the registry**: in every
registry reachable by well-formed declarations, two terms over units that have
a scale (units of types with reference unit, defined by scaling it) are equal
exactly when they denote the same rational factor and the same exponent for
every base unit.  (`ScaledAtoms` excludes exactly the units known finding D5
is about.) -/
theorem eq_iff_same_factor_and_exponents_reachable (s : RegState) (h : ReachableWF s)
    (t₁ t₂ : Items) (h₁ : ScaledAtoms s.unitEnv t₁) (h₂ : ScaledAtoms s.unitEnv t₂)
    (c₁ : Clean t₁) (c₂ : Clean t₂) :
    termEq s.unitEnv t₁ t₂ = true ↔
      (numVal (expanded s.unitEnv t₁) = numVal (expanded s.unitEnv t₂) ∧
       ∀ a, expOf a (expanded s.unitEnv t₁) = expOf a (expanded s.unitEnv t₂)) :=
  termEq_iff_reachable h t₁ t₂ h₁ h₂ c₁ c₂

/-! Non-vacuity of the reachable form: Length {m, km = 1000 m}, Duration {s},
Velocity = Length / Duration {m/s}, declared through the model of the class
statement and of `new_unit`; `km/s` and `1000 · m/s` meet the hypotheses. -/

def exDecls : List Decl := [
  .cls { name := "Length", defineAs := none, refUnitSymbol := some "m", quantum := none },
  .cls { name := "Duration", defineAs := none, refUnitSymbol := some "s", quantum := none },
  .newUnit 1 (some "km") (.qty 1000 0),
  .cls { name := "Velocity", defineAs := some [(.atom 1, 1), (.atom 2, -1)],
         refUnitSymbol := none, quantum := none }]

def exReg : RegState := exDecls.foldl RegState.applyDecl RegState.init

theorem exReg_reachable : ReachableWF exReg := by
  have h0 := ReachableWF.init
  have h1 := h0.step _ exDecls[0] trivial
  have h2 := h1.step _ exDecls[1] trivial
  -- km = 1000 m: the factor is not zero and m (unit 0) exists
  have h3 := h2.step _ exDecls[2] ⟨by norm_num, by decide +kernel⟩
  exact h3.step _ exDecls[3] trivial

example : (exReg.units.map (·.symbol)) = ["m", "s", "km", "m/s"] := by decide +kernel
example : ScaledAtoms exReg.unitEnv [(.atom 2, 1), (.atom 1, -1)] ∧
    ScaledAtoms exReg.unitEnv [(.num 1000, 1), (.atom 3, 1)] := by
  unfold ScaledAtoms; decide +kernel
example : termEq exReg.unitEnv [(.atom 2, 1), (.atom 1, -1)] [(.num 1000, 1), (.atom 3, 1)] = true := by
  decide +kernel

/-! ### Non-vacuity: an environment like Length {m, km} / Duration {s} / Velocity {m/s},
and a reduction that converts, merges and folds. -/

def exEnv : Env := { atoms := [
  { key := 2, group := 1, scale := some 1, isBase := true, normDef := [] },                -- m
  { key := 2, group := 1, scale := some 1000, isBase := false,
    normDef := [(.num 1000, 1), (.atom 0, 1)] },                                            -- km
  { key := 3, group := 2, scale := some 1, isBase := true, normDef := [] },                -- s
  { key := 7, group := 3, scale := some 1, isBase := false,
    normDef := [(.atom 0, 1), (.atom 2, -1)] }] }                                           -- m/s

/-- the hypotheses of the equivalence are met by this environment ... -/
theorem exEnv_hypotheses : KeysNonneg exEnv ∧ DefsBaseOnly exEnv ∧ BaseNoConv exEnv :=
  ⟨keysNonneg_of_atoms _ (by decide), defsBaseOnly_of_check _ (by decide),
    baseNoConv_of_check _ (by decide)⟩

/-- ... and by these two terms (km/s and 1000 · m/s; their base elements 0 = m,
2 = s have keys 2 and 3), which are equal as the theorem says -/
example : KeysSeparate exEnv [(.atom 1, 1), (.atom 2, -1)] [(.num 1000, 1), (.atom 3, 1)] := by
  decide
example : termEq exEnv [(.atom 1, 1), (.atom 2, -1)] [(.num 1000, 1), (.atom 3, 1)] = true := by
  decide +kernel

example : reduceItems exEnv [(.atom 1, 2), (.num 3, 1), (.atom 0, -1), (.atom 2, 0)] none true
    = [(.num 3000, 1), (.atom 1, 1)] := by decide +kernel
example : normalizedItems exEnv [(.atom 3, 2), (.atom 1, -1)]
    = [(.num (1/1000), 1), (.atom 0, 1), (.atom 2, -2)] := by decide +kernel

end QM.Props.C07
