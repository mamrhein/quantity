/-
C15 — directory coherence: unique symbols, own type, definitions mean what
they say.  (The model is tied to the code by running random declaration
histories — valid and invalid — against the real registries after every step.)
-/
import QuantityModel.Proofs.Scale
namespace QM.Props.C15

/-- the symbols of the directory are pairwise distinct -/
def SymbolsUnique (s : RegState) : Prop := (s.symMap.map Prod.fst).Nodup

/-- every directory entry points to a unit carrying that symbol -/
def SymbolsPointBack (s : RegState) : Prop :=
  ∀ sym u, (sym, u) ∈ s.symMap → u < s.units.length ∧ (s.unit u).symbol = sym

/-- symbols stay unique and keep pointing back -/
theorem makeUnit_preserves_symbols (s : RegState) (c : Nat) (sym : String)
    (defn : Option Items) (isRef : Bool) (s' : RegState) (uid : Nat)
    (h : s.makeUnit c sym defn isRef = .ok (s', uid))
    (hu : SymbolsUnique s) (hp : SymbolsPointBack s) :
    SymbolsUnique s' ∧ SymbolsPointBack s' :=
  (makeUnit_effect h).symbols hu hp

/-- `Unit(symbol)` after a successful creation returns the new unit -/
theorem makeUnit_lookup (s : RegState) (c : Nat) (sym : String) (defn : Option Items)
    (isRef : Bool) (s' : RegState) (uid : Nat)
    (h : s.makeUnit c sym defn isRef = .ok (s', uid)) :
    s'.symMap.lookup sym = some uid := by
  have m := makeUnit_effect h
  rw [m.symMap, List.lookup_append, (lookup_eq_none_iff_not_mem _ _).mpr m.fresh]; simp

/-- a quantity built by the generic factory has the unit it was given, hence is
an instance of that unit's type -/
theorem factory_dispatches_to_unit_class (s : RegState) (d : Rounding) (a : Rat) (u : Nat)
    (q : Qty) (h : s.mkQty d none a u = .ok q) : q.unit = u := by
  unfold RegState.mkQty RegState.mkQty.go at h
  simp only at h
  split at h
  · simp only [Except.ok.injEq] at h; rw [← h]
  · split at h
    · simp only [Except.ok.injEq] at h; rw [← h]
    · simp at h

theorem typed_constructor_rejects_foreign_unit (s : RegState) (d : Rounding) (c : Nat) (a : Rat)
    (u : Nat) (h : c ≠ s.unitCls u) : s.mkQty d (some c) a u = .error .QuantityError := by
  unfold RegState.mkQty; simp [h]

/-- the decision table of `_make_unit` / `new_unit` rejections -/
theorem duplicate_symbol_rejected (s : RegState) (c : Nat) (sym : String) (defn : Option Items)
    (isRef : Bool) (hne : sym ≠ "") (h : (s.symMap.lookup sym).isSome = true) :
    s.makeUnit c sym defn isRef = .error .valueError := by
  unfold RegState.makeUnit; simp [hne, h]

theorem empty_symbol_rejected (s : RegState) (c : Nat) (d : UnitDefArg) :
    (s.newUnit c (some "") d).2 = .error .valueError := by
  unfold RegState.newUnit; simp

theorem nonstring_symbol_rejected (s : RegState) (c : Nat) (d : UnitDefArg) :
    (s.newUnit c none d).2 = .error .typeError := by
  unfold RegState.newUnit; simp

theorem foreign_quantity_definition_rejected (s : RegState) (c : Nat) (sym : String) (a : Rat)
    (u : Nat) (hs : sym ≠ "") (h : (s.unit u).cls ≠ c) :
    (s.newUnit c (some sym) (.qty a u)).2 = .error .typeError := by
  unfold RegState.newUnit; simp [hs, h]

/-- a term definition is accepted only if it resolves to a unit of the very
class the new unit is declared for (same dimension) -/
theorem term_definition_must_resolve_to_own_class (s : RegState) (c : Nat) (sym : String)
    (t : Items) (hs : sym ≠ "")
    (h : ∀ f u, s.amntAndUnit t = some (f, some u) → (s.unit u).cls ≠ c) :
    (s.newUnit c (some sym) (.term t)).2 = .error .valueError := by
  unfold RegState.newUnit
  simp only [hs, String.isEmpty_iff, ↓reduceIte]
  cases hr : s.amntAndUnit t with
  | none => simp
  | some p =>
    obtain ⟨f, ou⟩ := p
    cases ou with
    | none => simp
    | some u => simp [h f u hr]

/-- a second quantity type for a dimension already taken is rejected -/
theorem duplicate_dimension_rejected (s : RegState) (d : ClassDecl) (t : Items)
    (hd : d.defineAs = some t) (ht : t ≠ [])
    (h : (s.clsMap.lookup (termNormalized s.clsEnv t)).isSome = true) :
    (s.declClass d).2 = .error .valueError := by
  unfold RegState.declClass
  simp [hd, ht, h]

/-- in every reachable state: every unit is found under its symbol as the
identical unit, symbols are unique, and a type lists only units created for it -/
theorem reachable_directories_coherent (s : RegState) (h : Reachable s) :
    (∀ u, u < s.units.length → s.symMap.lookup (s.unit u).symbol = some u) ∧
    (s.symMap.map Prod.fst).Nodup ∧
    (∀ c u, u ∈ (s.cls c).units → (s.unit u).cls = c) ∧
    (∀ sym u, s.symMap.lookup sym = some u → (s.unit u).symbol = sym) := by
  have hI := reachable_dirInv h
  refine ⟨?_, hI.symNodup, fun c u hu => (hI.unitLists c u hu).2, ?_⟩
  · intro u hu
    exact lookup_of_mem_nodup _ _ _ (hI.symTotal u hu) hI.symNodup
  · intro sym u hl
    exact (hI.symMap sym u (lookup_mem _ _ _ hl)).2

/-- in every reachable state the term → unit directory is keyed by the units'
own normalised definitions: the hypothesis of C02 / C10 / C17 always holds -/
theorem reachable_term_directory_sound (s : RegState) (h : Reachable s) : TermMapSound s :=
  (reachable_dirInv h).termMapSound

/-! ### the scale a definition denotes — closed form, every reachable state

`ReachableWF` : states reached from `import quantity` by ANY sequence of
declarations (accepted or rejected) whose definitions mention existing units
and do not denote zero.  `s.nu u` is the scale stored for `u` (1 for a unit
without one). -/

/-- `cls.new_unit(sym, define_as = a * u)` : the new unit's scale is exactly
`a · scale(u)` -/
theorem scale_of_multiple (s s' : RegState) (h : ReachableWF s) (c : Nat) (sym : String) (a : Rat)
    (u uid : Nat) (ha : a ≠ 0) (hu : u < s.units.length)
    (hok : s.newUnit c (some sym) (.qty a u) = (s', .ok uid)) :
    (s'.unit uid).equiv = some (a * s.nu u) := by
  have hS := reachableWF_scaleInv h
  obtain ⟨hat, hden⟩ := qtyDefn_wf s hS a u hu
  refine newUnit_cases (P := fun r => r = (s', .ok uid) → _) s c (some sym) (.qty a u)
    (rejected := nofun) (made := fun sy defn s'' uid' _ hdefn hm he => ?_) hok
  cases he; cases hdefn
  rw [← hden]
  exact (makeUnit_scale s s' c sy _ uid hm hS hat (hden ▸ mul_ne_zero ha (nu_ne_zero s hS u))).1

/-- `cls.new_unit(sym, define_as = term)` : the new unit's scale is exactly
what the term denotes, `factor · ∏ scale(uᵢ)^eᵢ` -/
theorem scale_of_term_definition (s s' : RegState) (h : ReachableWF s) (c : Nat) (sym : String)
    (t : Items) (uid : Nat) (hv : ∀ a ∈ atomsOf t, a < s.units.length) (hn : den s.nu t ≠ 0)
    (hok : s.newUnit c (some sym) (.term t) = (s', .ok uid)) :
    (s'.unit uid).equiv = some (den s.nu t) := by
  refine newUnit_cases (P := fun r => r = (s', .ok uid) → _) s c (some sym) (.term t)
    (rejected := nofun) (made := fun sy defn s'' uid' _ hdefn hm he => ?_) hok
  cases he; cases hdefn
  exact (makeUnit_scale s s' c sy t uid hm (reachableWF_scaleInv h) hv hn).1

/-- `cls.derive_unit_from(u₁, …, uₙ)` for a type defined as `∏ Bᵢ^eᵢ` : the new
unit's scale is exactly `∏ scale(uᵢ)^eᵢ` -/
theorem scale_of_derived_unit (s s' : RegState) (h : ReachableWF s) (c : Nat) (args : List Nat)
    (sym : Option String) (uid : Nat) (cdef : Items) (hc : (s.cls c).defn = some cdef)
    (hv : ∀ u ∈ args, u < s.units.length)
    (hok : s.deriveUnit c args sym = (s', .ok uid)) :
    (s'.unit uid).equiv =
      some (den s.nu ((cdef.zip args).map fun (it, u) => (Elem.atom u, it.2))) := by
  have hS := reachableWF_scaleInv h
  obtain ⟨hat, hden, hnz⟩ := deriveDefn_wf s hS cdef args hv
  refine deriveUnit_cases (P := fun r => r = (s', .ok uid) → _) s c args sym
    (rejected := nofun) (made := fun cdef' sy s'' uid' hc' hm he => ?_) hok
  cases he; cases hc.symm.trans hc'
  rw [← hden]
  exact (makeUnit_scale s s' c sy _ uid hm hS hat (hden ▸ hnz)).1

/-- in every such state the scale invariant holds: base units define
themselves; a derived unit's stored scale is the numeric part of its
normalised definition, whose other elements are existing base units; reference
units have scale 1; no scale is zero -/
theorem reachable_scale_invariant (s : RegState) (h : ReachableWF s) : ScaleInv s :=
  reachableWF_scaleInv h

/-- … and the valuation "unit ↦ stored scale" is admissible: the hypotheses
`Admissible s ν` of the C01 / C02 / C10 / C17 theorems are satisfiable in
every such state (non-vacuity for every history, not for one example) -/
theorem reachable_admissible (s : RegState) (h : ReachableWF s) : Admissible s s.nu :=
  admissible_nu s (reachableWF_scaleInv h)

/-- the reference unit of every type exists and has scale 1 -/
theorem reachable_ref_unit_scale_one (s : RegState) (h : ReachableWF s) (c r : Nat)
    (hr : (s.cls c).refUnit = some r) : r < s.units.length ∧ (s.unit r).equiv = some 1 :=
  (reachableWF_scaleInv h).refs c r hr

/-! ### known finding D10: a definition denoting zero

`L.new_unit('z', define_as = 0 * m)` is accepted and the unit gets scale 1
(`num_elem or ONE` in `_make_unit`), not the 0 its definition denotes — the
hypothesis `a ≠ 0` of `scale_of_multiple` cannot be dropped. -/

def d10Base : RegState :=
  (RegState.init.declClass
    { name := "L", defineAs := none, refUnitSymbol := some "m", quantum := none }).1
def d10State : RegState := (d10Base.newUnit 1 (some "z") (.qty 0 0)).1

theorem scale_of_zero_multiple_FALSE :
    (d10State.unit 1).symbol = "z" ∧ (d10State.unit 1).equiv = some 1 ∧
    (d10State.unit 1).equiv ≠ some (0 * d10Base.nu 0) := by
  decide +kernel

end QM.Props.C15
