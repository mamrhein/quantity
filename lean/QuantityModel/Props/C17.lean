/-
C17 — results do not depend on evaluation history.

The value of a unit operation is characterised by C02 purely in terms of the
operands (`ν u * ν v`, for every admissible valuation), whatever was evaluated
or declared before; the cache only ever holds sound entries, a hit returns the
stored (sound) entry, failures are never cached.
-/
import QuantityModel.Proofs.History
namespace QM.Props.C17

variable {ν : Nat → ℚ}

/-- the cache invariant is preserved by every unit operation -/
theorem cache_stays_sound_mul (s : QState) (hA : Admissible s.reg ν) (hT : TermMapSound s.reg)
    (hC : CacheSound s.reg ν) (u v : Nat) : CacheSound (s.mulUnits u v).1.reg ν :=
  (mulUnits_sound s ν hA hT hC u v).2

theorem cache_stays_sound_div (s : QState) (hA : Admissible s.reg ν) (hT : TermMapSound s.reg)
    (hC : CacheSound s.reg ν) (u v : Nat)
    (href : s.reg.unitCls u = s.reg.unitCls v →
      (s.reg.cls (s.reg.unitCls u)).refUnit.isSome = true) :
    CacheSound (s.divUnits u v).1.reg ν :=
  (divUnits_sound s ν hA hT hC u v href).2

/-- the empty cache (fresh process) is sound -/
theorem empty_cache_sound (s : RegState) (h : s.opCache = []) : CacheSound s ν :=
  .of_empty h

/-- two histories: whatever states `s₁`, `s₂` they lead to (different caches,
different declaration order), successful results of the same operation have
the same value under every valuation admissible in both -/
theorem value_independent_of_history (s₁ s₂ : QState)
    (hA₁ : Admissible s₁.reg ν) (hT₁ : TermMapSound s₁.reg) (hC₁ : CacheSound s₁.reg ν)
    (hA₂ : Admissible s₂.reg ν) (hT₂ : TermMapSound s₂.reg) (hC₂ : CacheSound s₂.reg ν)
    (u v : Nat) (f₁ f₂ : ℚ) (w₁ w₂ : Option Nat)
    (h₁ : (s₁.mulUnits u v).2 = .ok (f₁, w₁)) (h₂ : (s₂.mulUnits u v).2 = .ok (f₂, w₂)) :
    f₁ * optVal ν w₁ = f₂ * optVal ν w₂ := by
  rw [(mulUnits_sound s₁ ν hA₁ hT₁ hC₁ u v).1 f₁ w₁ h₁,
      (mulUnits_sound s₂ ν hA₂ hT₂ hC₂ u v).1 f₂ w₂ h₂]

/-- repeating an operation returns the identical result (it is now a cache
hit on the entry just stored) -/
theorem repeat_returns_same (s : QState) (u v : Nat) (r : ℚ × Option Nat)
    (h : (s.mulUnits u v).2 = .ok r) :
    ((s.mulUnits u v).1.mulUnits u v).2 = .ok r :=
  congrArg Prod.snd (unitOp_repeat s .mul u v r h)

/-- an operation that raised UndefinedResultError is *not* remembered: it is
recomputed against whatever has been declared since (C16: the state after a
failure is the state before) -/
theorem failure_not_cached (s : QState) (u v : Nat) (e : Err)
    (h : (s.mulUnits u v).2 = .error e) : (s.mulUnits u v).1 = s :=
  unitOp_error s .mul u v e h

/-- in every registry reachable by well-formed declarations (any order, rejected
attempts included) with a sound operation cache, the result of `u * v` is worth
exactly the product of the two stored scales: `f · scale(w) = scale(u) · scale(v)` -/
theorem product_value_is_product_of_scales (s : QState) (hR : ReachableWF s.reg)
    (hC : CacheSound s.reg s.reg.nu) (u v : Nat) (f : ℚ) (w : Option Nat)
    (h : (s.mulUnits u v).2 = .ok (f, w)) :
    f * optVal s.reg.nu w = s.reg.nu u * s.reg.nu v :=
  (mulUnits_sound s s.reg.nu (admissible_nu s.reg (reachableWF_scaleInv hR))
    (reachable_dirInv hR.reachable).termMapSound hC u v).1 f w h

theorem quotient_value_is_quotient_of_scales (s : QState) (hR : ReachableWF s.reg)
    (hC : CacheSound s.reg s.reg.nu) (u v : Nat) (f : ℚ) (w : Option Nat)
    (hlin : s.reg.unitCls u = s.reg.unitCls v → (s.reg.cls (s.reg.unitCls u)).refUnit.isSome = true)
    (h : (s.divUnits u v).2 = .ok (f, w)) :
    f * optVal s.reg.nu w = s.reg.nu u / s.reg.nu v :=
  (divUnits_sound s s.reg.nu (admissible_nu s.reg (reachableWF_scaleInv hR))
    (reachable_dirInv hR.reachable).termMapSound hC u v hlin).1 f w h

/-- **whichever order types and units were declared in**: two registries reached
by ANY two declaration sequences (so the same unit may carry different ids:
`u₁ ↔ u₂`, `v₁ ↔ v₂`), whatever was evaluated before (sound caches): if the
operands have the same scales in both — which their definitions fix (C15:
`scale_of_multiple`, `scale_of_term_definition`, `scale_of_derived_unit`) —
successful products have the same value in reference units -/
theorem value_independent_of_declaration_order (s₁ s₂ : QState)
    (hR₁ : ReachableWF s₁.reg) (hR₂ : ReachableWF s₂.reg)
    (hC₁ : CacheSound s₁.reg s₁.reg.nu) (hC₂ : CacheSound s₂.reg s₂.reg.nu)
    (u₁ v₁ u₂ v₂ : Nat) (hu : s₁.reg.nu u₁ = s₂.reg.nu u₂) (hv : s₁.reg.nu v₁ = s₂.reg.nu v₂)
    (f₁ f₂ : ℚ) (w₁ w₂ : Option Nat)
    (h₁ : (s₁.mulUnits u₁ v₁).2 = .ok (f₁, w₁)) (h₂ : (s₂.mulUnits u₂ v₂).2 = .ok (f₂, w₂)) :
    f₁ * optVal s₁.reg.nu w₁ = f₂ * optVal s₂.reg.nu w₂ := by
  rw [product_value_is_product_of_scales s₁ hR₁ hC₁ u₁ v₁ f₁ w₁ h₁,
      product_value_is_product_of_scales s₂ hR₂ hC₂ u₂ v₂ f₂ w₂ h₂, hu, hv]

/-! ### every history: declarations and operations interleaved in any order

`ReachableQ` (Proofs/History.lean): the states reached from `import quantity`
by any sequence of declarations (well-formed arguments, valid or rejected) and
unit products / quotients.  No hypothesis about the cache is left: it is an
invariant of every such history that cached entries name existing units and
are worth the operation they stand for under the stored scales. -/

/-- whatever was declared and evaluated before, a successful `u * v` is worth
the product of the stored scales of `u` and `v` -/
theorem product_value_after_any_history (s : QState) (h : ReachableQ s) (u v : Nat) (f : ℚ)
    (w : Option Nat) (hr : (s.mulUnits u v).2 = .ok (f, w)) :
    f * optVal s.reg.nu w = s.reg.nu u * s.reg.nu v := by
  have hI := reachableQ_histInv h
  exact (mulUnits_sound s s.reg.nu (admissible_nu s.reg hI.scale) hI.dir.termMapSound hI.sound u v).1
    f w hr

theorem quotient_value_after_any_history (s : QState) (h : ReachableQ s) (u v : Nat) (f : ℚ)
    (w : Option Nat)
    (hlin : s.reg.unitCls u = s.reg.unitCls v → (s.reg.cls (s.reg.unitCls u)).refUnit.isSome = true)
    (hr : (s.divUnits u v).2 = .ok (f, w)) :
    f * optVal s.reg.nu w = s.reg.nu u / s.reg.nu v := by
  have hI := reachableQ_histInv h
  exact (divUnits_sound s s.reg.nu (admissible_nu s.reg hI.scale) hI.dir.termMapSound hI.sound u v
    hlin).1 f w hr

/-- **Results do not depend on evaluation history**: two histories — any
declarations in any order, any operations evaluated in between, in any order —
and an operation on corresponding units (the same scales; the ids may differ):
if it succeeds in both, the two results have the same value in reference
units. -/
theorem results_do_not_depend_on_history (s₁ s₂ : QState) (h₁ : ReachableQ s₁) (h₂ : ReachableQ s₂)
    (u₁ v₁ u₂ v₂ : Nat) (hu : s₁.reg.nu u₁ = s₂.reg.nu u₂) (hv : s₁.reg.nu v₁ = s₂.reg.nu v₂)
    (f₁ f₂ : ℚ) (w₁ w₂ : Option Nat)
    (r₁ : (s₁.mulUnits u₁ v₁).2 = .ok (f₁, w₁)) (r₂ : (s₂.mulUnits u₂ v₂).2 = .ok (f₂, w₂)) :
    f₁ * optVal s₁.reg.nu w₁ = f₂ * optVal s₂.reg.nu w₂ := by
  rw [product_value_after_any_history s₁ h₁ u₁ v₁ f₁ w₁ r₁,
      product_value_after_any_history s₂ h₂ u₂ v₂ f₂ w₂ r₂, hu, hv]

/-- non-vacuity: a history that declares a type, a second unit of it and divides
the two units is a `ReachableQ` history -/
example : ∃ s, ReachableQ s ∧ s.reg.units.length = 2 ∧ s.reg.opCache.length = 1 := by
  let d1 : Decl := .cls { name := "Length", defineAs := none, refUnitSymbol := some "m", quantum := none }
  let d2 : Decl := .newUnit 1 (some "km") (.qty 1000 0)
  have h0 := ReachableQ.init
  have h1 := ReachableQ.decl _ d1 h0 (by simp [d1, Decl.WF])
  have h2 := ReachableQ.decl _ d2 h1 ⟨by norm_num, by decide +kernel⟩
  have h3 := ReachableQ.div _ 1 0 h2 (by decide +kernel) (by decide +kernel) (by decide +kernel)
  exact ⟨_, h3, by decide +kernel, by decide +kernel⟩

end QM.Props.C17
