/-
C11 — the money converter yields the right rate for every update history and
date.  The converter state is the log of accepted entries; a lookup is
"the most recent entry whose key is (period of the date, currency)".
-/
import QuantityModel.Model.Money
import QuantityModel.Proofs.Lists
import Mathlib.Data.List.Basic
namespace QM.Props.C11

variable (dflt : Rounding)

/-- `r` is the outcome of an update attempted on `c`: if it was rejected,
what remains is `c` itself -/
def Unchanged (c : MConv) (r : MConv × Except Err Unit) : Prop := ∀ e, r.2 = .error e → r.1 = c

theorem update_cases (c : MConv) (v : VSpell) (specs : List RateSpec) :
    (∃ e, c.update dflt v specs = (c, .error e)) ∨
    ∃ val rs, parseValidity v = .ok val ∧
      specs.mapM (fun sp =>
          (mkRate dflt c.base sp.termCur sp.unitMultiple sp.termAmount).map
            fun r => ((val, sp.termCur), r)) = .ok rs ∧
      c.update dflt v specs = ({ c with kind := some val.kind, rates := c.rates ++ rs }, .ok ()) := by
  unfold MConv.update
  cases parseValidity v with
  | error e => exact .inl ⟨e, rfl⟩
  | ok val =>
    dsimp only
    split
    · exact .inl ⟨_, rfl⟩
    · cases hm : specs.mapM fun sp =>
          (mkRate dflt c.base sp.termCur sp.unitMultiple sp.termAmount).map
            fun r => ((val, sp.termCur), r) with
      | error e => exact .inl ⟨e, rfl⟩
      | ok rs => exact .inr ⟨val, rs, rfl, hm, rfl⟩

/-- a rejected update (invalid period, other kind of validity, any invalid
rate spec) leaves the converter exactly as it was -/
theorem rejected_update_changes_nothing (c : MConv) (v : VSpell) (specs : List RateSpec) :
    Unchanged c (c.update dflt v specs) := by
  rcases update_cases dflt c v specs with ⟨e, h⟩ | ⟨val, rs, -, -, h⟩ <;> rw [h]
  · exact fun _ _ => rfl
  · exact fun _ h => nomatch h

/-- mixing kinds of validity is rejected -/
theorem mixed_kinds_rejected (c : MConv) (v : VSpell) (specs : List RateSpec) (k : VKind)
    (val : Validity) (hk : c.kind = some k) (hv : parseValidity v = .ok val) (hne : val.kind ≠ k) :
    (c.update dflt v specs).2 = .error .ValueError := by
  simp [MConv.update, hv, hk, hne.symm]

/-- an accepted update appends rates under the normalised period (one per
spec, in order) and fixes the kind of validity; nothing else changes -/
theorem accepted_update_effect (c : MConv) (v : VSpell) (specs : List RateSpec)
    (h : (c.update dflt v specs).2 = .ok ()) :
    ∃ val rs, parseValidity v = .ok val ∧
      (c.update dflt v specs).1 = { c with kind := some val.kind, rates := c.rates ++ rs } ∧
      specs.mapM (fun sp =>
          (mkRate dflt c.base sp.termCur sp.unitMultiple sp.termAmount).map
            fun r => ((val, sp.termCur), r)) = .ok rs := by
  rcases update_cases dflt c v specs with ⟨e, h'⟩ | ⟨val, rs, hv, hm, h'⟩
  · rw [h'] at h; cases h
  · exact ⟨val, rs, hv, congrArg Prod.fst h', hm⟩

/-- the stored rate for a date is the MOST RECENT entry whose key is the
period containing that date: entries of other periods or other currencies
never influence the result -/
theorem stored_rate_ignores_other_keys (c : MConv) (k : VKind) (hk : c.kind = some k)
    (cur : Nat) (y m d : Int) :
    c.storedRate cur y m d =
      ((c.rates.filter fun e => e.1 == (dateToValidity k y m d, cur)).getLast?.map (·.2)) := by
  rw [MConv.storedRate, hk, List.getLast?_filter]
  exact lookup_eq_find? _ _

/-- last write wins: the lookup for a date in the period of the entry appended
last returns that entry's rate -/
theorem storedRate_after_append (c : MConv) (k : VKind) (key : Validity) (cur : Nat) (r : Rate)
    (y m d : Int) (hkey : dateToValidity k y m d = key) :
    ({ c with kind := some k, rates := c.rates ++ [((key, cur), r)] } : MConv).storedRate cur y m d
      = some r := by
  unfold MConv.storedRate
  simp [hkey]

/-- spellings of one period map to the same key (instances) -/
theorem year_spellings_agree :
    parseValidity (.int 2020) = parseValidity (.strParts ["2020"]) := by decide +kernel
theorem month_spellings_agree :
    parseValidity (.tuple 2020 3) = parseValidity (.strParts ["2020", "03"]) := by decide +kernel
theorem day_spellings_agree :
    parseValidity (.date 2020 2 29) = parseValidity (.strParts ["2020", "02", "29"]) := by decide +kernel
theorem invalid_periods_rejected :
    parseValidity (.strParts ["2021", "02", "29"]) = .error .ValueError ∧
    parseValidity (.tuple 2020 13) = .error .ValueError ∧
    parseValidity (.int 0) = .error .ValueError ∧
    parseValidity (.strParts ["2020", "3"]) = .error .ValueError ∧
    parseValidity .other = .error .ValueError := by decide +kernel

/-- the three shapes of a look-up: from the base currency, towards it, across -/
theorem from_base_is_stored_rate (c : MConv) (t : Nat) (y m d : Int) (h : c.base ≠ t) :
    c.getRate dflt c.base t y m d = .ok (c.storedRate t y m d) := by
  simp [MConv.getRate, h]

theorem towards_base_is_inverted (c : MConv) (u : Nat) (y m d : Int) (h : u ≠ c.base) (r : Rate)
    (hs : c.storedRate u y m d = some r) :
    c.getRate dflt u c.base y m d = (r.inverted dflt).map some := by
  simp [MConv.getRate, h, h.symm, hs]

theorem cross_is_quotient_of_base_rates (c : MConv) (u t : Nat) (y m d : Int)
    (hut : u ≠ t) (hu : c.base ≠ u) (ht : c.base ≠ t) (ur tr : Rate)
    (h1 : c.storedRate u y m d = some ur) (h2 : c.storedRate t y m d = some tr) :
    c.getRate dflt u t y m d = (mkRate dflt u t (.val 1) (taOf (tr.rate / ur.rate))).map some := by
  simp [MConv.getRate, hut, hu, ht, h1, h2]

theorem missing_entry_gives_none (c : MConv) (u t : Nat) (y m d : Int)
    (hut : u ≠ t) (hu : c.base ≠ u) (ht : c.base ≠ t)
    (h : c.storedRate u y m d = none ∨ c.storedRate t y m d = none) :
    c.getRate dflt u t y m d = .ok none := by
  simp only [MConv.getRate, beq_iff_eq, hut, hu, ht, ↓reduceIte]
  rcases h with h | h
  · rw [h]
  · rw [h]; cases c.storedRate u y m d <;> rfl

/-- calling the converter multiplies the amount by exactly the reported rate -/
theorem call_is_amount_times_rate (c : MConv) (a : Rat) (u t : Nat) (y m d : Int) (r : Rate)
    (h : c.getRate dflt u t y m d = .ok (some r)) : c.call dflt a u t y m d = .ok (r.rate * a) := by
  unfold MConv.call; simp [h]

/-! Known finding D8 (kept visible): "one for a currency and itself" is false
of the code — the lookup builds `ExchangeRate(c, 1, c, 1)`, which is rejected
(identical currencies). -/
theorem same_currency_rate_is_one_FALSE (c : MConv) (u : Nat) (y m d : Int) :
    c.getRate dflt u u y m d = .error .ValueError := by
  unfold MConv.getRate mkRate; simp [Except.map]

end QM.Props.C11
