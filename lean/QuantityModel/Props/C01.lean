/-
C01 — linear conversion is exact and coherent.
Scales are what the chain of definitions denotes (C15 / C20).  Amounts are
rationals by construction of the model; the implementation side asserts
`type(amount) in (Decimal, Fraction)` on every result.
-/
import QuantityModel.Proofs.Quantity
import QuantityModel.Proofs.Scale
namespace QM.Props.C01

variable {s : QState} {d : Rounding}

/-- converting multiplies the amount by exactly the ratio of the scales; class
and target unit are those asked for; nothing is rounded when the type has no
quantum -/
theorem convert_is_exact_ratio {q : Qty} {v a b} (h : Linear s.reg q.unit v a b) (hb : b ≠ 0)
    (hq : s.reg.unitQuantum v = none) :
    s.convert d q v = .ok ⟨a / b * q.amount, v⟩ := by
  rw [convert_linear h hb]; exact mkQty_no_quantum rfl hq

private theorem ratio_comp {a b c : ℚ} (hb : b ≠ 0) (x : ℚ) : b / c * (a / b * x) = a / c * x := by
  rw [← mul_assoc, mul_comm (b / c), div_mul_div_cancel₀ hb]

theorem converted_equals_original {q : Qty} {v a b} (h : Linear s.reg q.unit v a b)
    (ha : a ≠ 0) (hb : b ≠ 0) :
    s.qtyEq q ⟨a / b * q.amount, v⟩ = .ok true := by
  rw [qtyEq_linear (y := ⟨_, v⟩) h.symm ha, ratio_comp hb, div_self ha, one_mul, beq_self_eq_true]

theorem convert_via_intermediate {q : Qty} {v w a b c} (huv : Linear s.reg q.unit v a b)
    (hvw : Linear s.reg v w b c) (huw : Linear s.reg q.unit w a c) (hb : b ≠ 0) (hc : c ≠ 0)
    (hqv : s.reg.unitQuantum v = none) (hqw : s.reg.unitQuantum w = none) :
    (s.convert d q v).bind (fun q' => s.convert d q' w) = s.convert d q w := by
  rw [convert_is_exact_ratio huv hb hqv, convert_is_exact_ratio huw hc hqw]
  exact (convert_is_exact_ratio (q := ⟨_, v⟩) hvw hc hqw).trans (by rw [ratio_comp hb])

/-- converting back returns the identical amount (`convert_via_intermediate`
with the quantity's own unit as target) -/
theorem convert_round_trip {q : Qty} {v a b} (h : Linear s.reg q.unit v a b)
    (ha : a ≠ 0) (hb : b ≠ 0)
    (hqv : s.reg.unitQuantum v = none) (hqu : s.reg.unitQuantum q.unit = none) :
    (s.convert d q v).bind (fun q' => s.convert d q' q.unit) = .ok q := by
  have hself : Linear s.reg q.unit q.unit a a := ⟨rfl, h.hasRef, h.eu, h.eu⟩
  rw [convert_via_intermediate h h.symm hself hb ha hqv hqu,
    convert_is_exact_ratio hself ha hqu, div_self ha, one_mul]

/-- with a quantum the exact value is rounded exactly once, by the constructor -/
theorem convert_quantised_rounds_once {q : Qty} {v a b qu} (h : Linear s.reg q.unit v a b)
    (hb : b ≠ 0) (hq : s.reg.unitQuantum v = some qu) (hne : qu ≠ 0) :
    s.convert d q v = .ok ⟨(roundQ d (a / b * q.amount / qu) : ℚ) * qu, v⟩ := by
  rw [convert_linear h hb]; exact mkQty_quantum rfl hq hne

/-- the numeric factor `_make_unit` reads off the definition `k * b`; that it
becomes the unit's scale, times the scale of `b`, is `C15.scale_of_multiple` -/
theorem numeric_part_of_scaled_definition (k : ℚ) (hk : k ≠ 1) (b : Nat) :
    numElem (filterItems [(.num k, 1), (.atom b, 1)]) = some k := by
  have : (Elem.num k != Elem.num 1) = true := by simpa using hk
  simp [filterItems, numElem, this, rpow]

theorem reachable_scales_nonzero (hr : ReachableWF s.reg) {u v a b}
    (h : Linear s.reg u v a b) : a ≠ 0 ∧ b ≠ 0 :=
  have hS := reachableWF_scaleInv hr
  ⟨fun h0 => hS.nz u (h0 ▸ h.eu), fun h0 => hS.nz v (h0 ▸ h.ev)⟩

/-- there-and-back is the identity for ANY two units of a linear,
unquantised type in ANY reachable registry -/
theorem reachable_convert_round_trip (hr : ReachableWF s.reg) {q : Qty} {v a b}
    (h : Linear s.reg q.unit v a b)
    (hqv : s.reg.unitQuantum v = none) (hqu : s.reg.unitQuantum q.unit = none) :
    (s.convert d q v).bind (fun q' => s.convert d q' q.unit) = .ok q :=
  convert_round_trip h (reachable_scales_nonzero hr h).1 (reachable_scales_nonzero hr h).2 hqv hqu

theorem reachable_converted_equals_original (hr : ReachableWF s.reg) {q : Qty} {v a b}
    (h : Linear s.reg q.unit v a b) :
    s.qtyEq q ⟨a / b * q.amount, v⟩ = .ok true :=
  converted_equals_original h (reachable_scales_nonzero hr h).1 (reachable_scales_nonzero hr h).2

/-- a unit declared WITHOUT a definition has no scale: within its own type it
converts to nothing (no converter registered) — UnitConversionError, whether
or not the type has a reference unit (since fix c2c5a04 not an AssertionError) -/
theorem convert_scale_less_unit_rejected {q : Qty} {v : Nat}
    (hc : s.reg.unitCls q.unit = s.reg.unitCls v) (hne : q.unit ≠ v)
    (hnone : (s.reg.unit q.unit).equiv = none)
    (hmoney : (s.reg.cls (s.reg.unitCls q.unit)).isMoney = false)
    (hconv : s.clsConverters (s.reg.unitCls q.unit) = []) :
    s.convert d q v = .error .UnitConversionError := by
  rw [QState.convert, equivAmount_no_converter (.of_noScale hc hne hnone) hmoney hconv]

/-- ... and to a unit of ANOTHER type it is IncompatibleUnitsError all the same -/
theorem convert_scale_less_unit_other_type {q : Qty} {v : Nat}
    (hc : s.reg.unitCls q.unit ≠ s.reg.unitCls v) :
    s.convert d q v = .error .IncompatibleUnitsError := by
  rw [QState.convert, equivAmount_other_class hc]

end QM.Props.C01
