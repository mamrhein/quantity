/-
C05 — quantised types hold the nearest multiple of the quantum, rounded once.
Every operator builds its result by `mkQty` (the constructor), which is where
it is rounded to the quantum (`allocate` alone rounds its portions itself, by
`toGrid`: C06).
-/
import QuantityModel.Proofs.Quantity
namespace QM.Props.C05

variable {s : RegState} {d : Rounding}

/-- the constructor stores the integer multiple of the unit's quantum that the
default rounding mode selects for the exact amount -/
theorem constructor_rounds_to_grid {c a u qu} (hc : c = s.unitCls u)
    (hq : s.unitQuantum u = some qu) (hne : qu ≠ 0) :
    s.mkQty d (some c) a u = .ok ⟨(roundQ d (a / qu) : ℚ) * qu, u⟩ :=
  mkQty_quantum hc hq hne

/-- on the grid, less than one quantum from the exact amount, at most half a
quantum under the half modes -/
theorem stored_amount_bounds (a qu : ℚ) (hne : qu ≠ 0) :
    let r := (roundQ d (a / qu) : ℚ) * qu
    (∃ k : ℤ, r = k * qu) ∧ |a - r| < |qu| ∧ (d.isHalf = true → |a - r| ≤ |qu| / 2) :=
  ⟨⟨_, rfl⟩, roundQ_grid_bound d a qu hne⟩

theorem floor_never_above (a qu : ℚ) (hq : 0 < qu) :
    (roundQ .ROUND_FLOOR (a / qu) : ℚ) * qu ≤ a :=
  (le_div_iff₀ hq).1 (roundQ_floor _)

theorem ceiling_never_below (a qu : ℚ) (hq : 0 < qu) :
    a ≤ (roundQ .ROUND_CEILING (a / qu) : ℚ) * qu :=
  (div_le_iff₀ hq).1 (roundQ_ceiling _)

/-- an amount already on the grid is stored unchanged (so re-constructing a
stored value never rounds a second time) -/
theorem on_grid_is_fixed (k : ℤ) (qu : ℚ) (hne : qu ≠ 0) :
    (roundQ d ((k : ℚ) * qu / qu) : ℚ) * qu = k * qu :=
  roundQ_on_grid d k hne

/-- sums of stored amounts are exact (`k₁`, `k₂` of either sign: differences and
negations too) -/
theorem grid_closed_under_add (k₁ k₂ : ℤ) (qu : ℚ) (hne : qu ≠ 0) :
    (roundQ d (((k₁ : ℚ) * qu + (k₂ : ℚ) * qu) / qu) : ℚ) * qu = (k₁ : ℚ) * qu + (k₂ : ℚ) * qu := by
  rw [← add_mul, ← Int.cast_add]
  exact roundQ_on_grid d _ hne

/-- unit quantum = class quantum / scale (currencies: the smallest fraction) -/
theorem unit_quantum_is_class_quantum_over_scale {u q e}
    (hs : (s.unit u).smallestFraction = none)
    (hq : (s.cls (s.unit u).cls).quantum = some q) (he : (s.unit u).equiv = some e) :
    s.unitQuantum u = some (q / e) := by
  unfold RegState.unitQuantum; simp [hs, hq, he]

theorem currency_quantum_is_smallest_fraction {u f}
    (hs : (s.unit u).smallestFraction = some f) : s.unitQuantum u = some f := by
  unfold RegState.unitQuantum; simp [hs]

/-- arithmetic producing a quantised quantity computes the final amount first
and constructs once: `q * k`, `q / k`, `-q`, sums (see C03), products (C02),
conversion (C01) all end in exactly one `mkQty` of the exact expression. -/
theorem scale_rounds_once {sq : QState} {x : Qty} {k qu : ℚ}
    (hq : sq.reg.unitQuantum x.unit = some qu) (hne : qu ≠ 0) :
    sq.qtyScale d x k = .ok (.qty ⟨(roundQ d (x.amount * k / qu) : ℚ) * qu, x.unit⟩) := by
  unfold QState.qtyScale
  rw [mkQty_quantum rfl hq hne]; rfl

/-- the sum / difference of two quantities of one type whose left unit has
quantum `qu` is the exact sum in the left operand's unit (the right amount is
converted exactly first), rounded once to that unit's grid -/
theorem sum_rounds_once {sq : QState} (sign : ℚ) {x y : Qty} {a b qu : ℚ}
    (h : Linear sq.reg y.unit x.unit b a) (ha : a ≠ 0)
    (hq : sq.reg.unitQuantum x.unit = some qu) (hne : qu ≠ 0) :
    sq.qtyAddSub d sign x y =
      .ok ⟨(roundQ d ((x.amount + sign * (b / a * y.amount)) / qu) : ℚ) * qu, x.unit⟩ := by
  rw [qtyAddSub_linear sign h ha]; exact mkQty_quantum rfl hq hne

/-- the stored amount of EVERY quantity the constructor lets through in a unit
with quantum `qu` is an integer multiple of `qu` -/
theorem constructed_amount_on_grid {c : Nat} {a : ℚ} {u : Nat} {qu : ℚ} {r : Qty}
    (hc : c = s.unitCls u) (hq : s.unitQuantum u = some qu) (hne : qu ≠ 0)
    (h : s.mkQty d (some c) a u = .ok r) : ∃ k : ℤ, r.amount = k * qu ∧ r.unit = u := by
  rw [mkQty_quantum hc hq hne] at h
  cases h
  exact ⟨_, rfl, rfl⟩

end QM.Props.C05
