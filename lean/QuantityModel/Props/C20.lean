/-
C20 — the predefined catalogue matches SI / international definitions and its
documentation.

`Gen.catalogueSteps`, `Gen.siPrefixes`, `Gen.docRows` are regenerated from
/repo's `predefined.py` / `si_prefixes.py` on every run; `Ref.*` is the
hand-written reference (DESIGN.md Appendix A).  The finite tables are decided
over the *whole* table by kernel evaluation (`decide +kernel`, no axioms) of the
registry model replaying the declaration script; C01 lifts them to all amounts.
-/
import QuantityModel.Ref.SIRef
import QuantityModel.Model.Catalogue
import QuantityModel.Gen.Catalogue
import QuantityModel.Gen.Prefixes
import QuantityModel.Gen.DocTables
import QuantityModel.Props.C02
namespace QM.Props.C20

/-- the registry state reached by replaying predefined.py on the model -/
def catState : RegState := (runCatalogue Gen.catalogueSteps).1

/-- directory view: (class name, symbol, scale) of every unit, creation order -/
def dirView (s : RegState) : List (String × String × Option Rat) :=
  s.units.map fun u => ((s.cls u.cls).name, u.symbol, u.equiv)

def inDir (v : List (String × String × Option Rat)) (c sy : String) (k : Option Rat) : Bool :=
  v.any fun e => e.1 == c && e.2.1 == sy && e.2.2 == k

/-- dimension vector of a class over the base classes, read off its
normalised definition -/
def classDim (s : RegState) (c : Nat) : List (String × Int) :=
  (s.cls c).normDef.filterMap fun it => match it.1 with
    | .atom b => some ((s.cls b).name, it.2)
    | .num _ => none

def refDim (d : Int × Int × Int × Int) : List (String × Int) :=
  [("Mass", d.1), ("Length", d.2.1), ("Duration", d.2.2.1), ("DataVolume", d.2.2.2)].filter
    fun p => p.2 != 0

def sameDim (a b : List (String × Int)) : Bool :=
  a.all (fun p => b.contains p) && b.all (fun p => a.contains p)

/-- km/min (units 14 and 25: units are numbered in the order in which predefined.py
creates them) and the key under which m/s is registered -/
private def kmPerMin : Items := mkTerm catState.unitEnv [(.atom 14, 1), (.atom 25, -1)]
private def mPerS : Items := [(.atom 8, 1), (.atom 21, -1)]

/-- Everything this file reads off the replayed catalogue, decided by ONE
kernel evaluation: the kernel shares the state reached by the script between
the conjuncts, so the script is replayed once and not once per fact (the
replay is most of what any single fact costs to check).  The conjuncts are
grouped as the theorems below are: (1) the units against the reference tables,
(2) the types (dimensions, reference units, quantum), (3) the documentation
tables, (4) stored definitions mention base units only, (5) km/min; each of
them is the component of that position in its group. -/
private theorem evaluated :
    ((runCatalogue Gen.catalogueSteps).2 = 0 ∧
     Ref.linearUnits.all (fun e => inDir (dirView catState) e.1 e.2.1 (some e.2.2)) = true ∧
     Ref.temperatureUnits.all (fun e => inDir (dirView catState) e.1 e.2 none) = true ∧
     (dirView catState).all (fun e =>
       Ref.linearUnits.any (fun r => r.1 == e.1 && r.2.1 == e.2.1 && some r.2.2 == e.2.2) ||
       Ref.temperatureUnits.any (fun r => r.1 == e.1 && r.2 == e.2.1 && e.2.2 == none)) = true ∧
     ((dirView catState).length = 113 ∧ Ref.linearUnits.length = 110)) ∧
    (Ref.dimensions.all (fun e =>
       (List.range catState.classes.length).any fun c =>
         (catState.cls c).name == e.1 && sameDim (classDim catState c) (refDim e.2)) = true ∧
     (List.range catState.classes.length).all (fun c =>
       match (catState.cls c).refUnit with
       | none => true
       | some r =>
         (catState.unit r).equiv == some 1 &&
         (catState.unit r).normDef.all fun it => match it.1 with
           | .atom b => (catState.unit b).defn.isNone &&
               (catState.cls (catState.unit b).cls).refUnit == some b
           | .num _ => false) = true ∧
     (List.range catState.classes.length).any (fun c =>
       (catState.cls c).name == "DataVolume" &&
       (catState.cls c).quantum == some Ref.dataVolumeQuantum) = true) ∧
    (Gen.docRows.all (fun row =>
       inDir (dirView catState) row.1 row.2.1 (some row.2.2.2) &&
       (List.range catState.classes.length).any fun c =>
         (catState.cls c).name == row.1 &&
         ((catState.cls c).refUnit.map fun r => (catState.unit r).symbol) == some row.2.2.1)
       = true ∧
     Ref.linearUnits.all (fun e =>
       e.2.2 == 1 && (List.range catState.classes.length).any (fun c =>
         (catState.cls c).name == e.1 &&
         ((catState.cls c).refUnit.map fun r => (catState.unit r).symbol) == some e.2.1) ||
       Gen.docRows.any fun row => row.1 == e.1 && row.2.1 == e.2.1) = true) ∧
    defsBaseOnlyUpTo catState.unitEnv catState.unitEnv.atoms.length = true ∧
    (expanded catState.unitEnv kmPerMin
       = [(.num 1000, 1), (.atom 8, 1), (.num 60, -1), (.atom 21, -1)] ∧
     Clean kmPerMin ∧ (mPerS, 52) ∈ catState.termMap ∧
     normalizedItems catState.unitEnv mPerS = mPerS ∧
     KeysSeparate catState.unitEnv kmPerMin mPerS) := by
  decide +kernel

/-- every declaration of the script is accepted by the model -/
theorem catalogue_replays_without_rejection : (runCatalogue Gen.catalogueSteps).2 = 0 :=
  evaluated.1.1

/-- every unit of the reference table exists, belongs to the type of its
dimension and has exactly the reference scale -/
theorem every_reference_unit_has_its_SI_scale :
    Ref.linearUnits.all (fun e => inDir (dirView catState) e.1 e.2.1 (some e.2.2)) = true :=
  evaluated.1.2.1

/-- the three temperature units exist, in a type without reference unit -/
theorem temperature_units_present :
    Ref.temperatureUnits.all (fun e => inDir (dirView catState) e.1 e.2 none) = true :=
  evaluated.1.2.2.1

/-- and the catalogue declares no unit outside the reference tables -/
theorem no_unit_outside_the_reference :
    (dirView catState).all (fun e =>
      Ref.linearUnits.any (fun r => r.1 == e.1 && r.2.1 == e.2.1 && some r.2.2 == e.2.2) ||
      Ref.temperatureUnits.any (fun r => r.1 == e.1 && r.2 == e.2.1 && e.2.2 == none)) = true :=
  evaluated.1.2.2.2.1

theorem unit_counts : (dirView catState).length = 113 ∧ Ref.linearUnits.length = 110 :=
  evaluated.1.2.2.2.2

/-- every quantity type has exactly the dimension the SI gives it -/
theorem every_type_has_its_dimension :
    Ref.dimensions.all (fun e =>
      (List.range catState.classes.length).any fun c =>
        (catState.cls c).name == e.1 && sameDim (classDim catState c) (refDim e.2)) = true :=
  evaluated.2.1.1

/-- the reference unit of a derived type is the product of the base types'
reference units: its scale is 1 and its normalised definition consists of base
reference units only (kg, m, s, B) -/
theorem derived_reference_units_are_products_of_base_reference_units :
    (List.range catState.classes.length).all (fun c =>
      match (catState.cls c).refUnit with
      | none => true
      | some r =>
        (catState.unit r).equiv == some 1 &&
        (catState.unit r).normDef.all fun it => match it.1 with
          | .atom b => (catState.unit b).defn.isNone &&
              (catState.cls (catState.unit b).cls).refUnit == some b
          | .num _ => false) = true :=
  evaluated.2.1.2.1

/-- every SI prefix equals its power of ten -/
theorem si_prefixes_are_powers_of_ten :
    (Gen.siPrefixes.map fun p => (p.2.1, p.2.2.2)) = Ref.siPrefixExp := by
  decide +kernel

/-- the quantum of data volumes is one bit -/
theorem data_volume_quantum_is_one_bit :
    (List.range catState.classes.length).any (fun c =>
      (catState.cls c).name == "DataVolume" &&
      (catState.cls c).quantum == some Ref.dataVolumeQuantum) = true :=
  evaluated.2.1.2.2

/-- every row of the documentation tables (symbol, equivalent in the
reference unit) equals the computed scale, and names the right reference unit -/
theorem documentation_rows_equal_computed_scales :
    Gen.docRows.all (fun row =>
      inDir (dirView catState) row.1 row.2.1 (some row.2.2.2) &&
      (List.range catState.classes.length).any fun c =>
        (catState.cls c).name == row.1 &&
        ((catState.cls c).refUnit.map fun r => (catState.unit r).symbol) == some row.2.2.1)
      = true :=
  evaluated.2.2.1.1

/-- every linear unit except the reference units is documented -/
theorem documentation_is_complete :
    Ref.linearUnits.all (fun e =>
      e.2.2 == 1 && (List.range catState.classes.length).any (fun c =>
        (catState.cls c).name == e.1 &&
        ((catState.cls c).refUnit.map fun r => (catState.unit r).symbol) == some e.2.1) ||
      Gen.docRows.any fun row => row.1 == e.1 && row.2.1 == e.2.1) = true :=
  evaluated.2.2.1.2

/-- the documented temperature fixed points (the `=` rows; the `≅` row is an
approximation and is not a claim of equality) -/
theorem documentation_temperature_rows :
    Gen.docTempRows.lookup "°C" = some "0 °C = 32 °F = 273.15 K" ∧
    Gen.docTempRows.lookup "K" = some "0 K = -273.15 °C = -459.67 °F" := by
  decide +kernel

/-! ### the term theorems of C07 apply to the catalogue

Of the two environment hypotheses of C07's equivalence, "distinct base units are
not convertible into each other" holds because the catalogue state is a
reachable registry; "stored normalised definitions mention base units only"
would follow likewise if every step of the script were shown well-formed, which
is data: it is evaluated. -/

theorem catalogue_reachable : Reachable catState := by
  -- by the equation of `catState`: left to compare `catState` with its body, the kernel
  -- replays the script
  rw [catState]; exact runCatalogue_reachable _

theorem catalogue_baseNoConv : BaseNoConv catState.unitEnv :=
  reachable_baseNoConv catalogue_reachable

theorem catalogue_defsBaseOnly : DefsBaseOnly catState.unitEnv :=
  defsBaseOnly_of_check _ evaluated.2.2.2.1

/-- **In the predefined catalogue two unit terms are equal exactly when they
denote the same rational factor and the same exponent for every base unit**
(kg, m, s, B, and the temperature units), provided they do not mention two
different temperature units (`KeysSeparate`: the three temperature units are
base units of one type without reference unit — known finding D5). -/
theorem catalogue_terms_equal_iff (t₁ t₂ : Items)
    (hsep : KeysSeparate catState.unitEnv t₁ t₂) (h₁ : Clean t₁) (h₂ : Clean t₂) :
    termEq catState.unitEnv t₁ t₂ = true ↔
      (numVal (expanded catState.unitEnv t₁) = numVal (expanded catState.unitEnv t₂) ∧
       ∀ a, expOf a (expanded catState.unitEnv t₁) = expOf a (expanded catState.unitEnv t₂)) :=
  termEq_iff _ (keysNonneg_unitEnv _) catalogue_defsBaseOnly catalogue_baseNoConv t₁ t₂ hsep h₁ h₂

/-- hence the result of `unit × unit`, `unit / unit`, `unit ** n` in the
catalogue depends on the dimension and scale of the term only (C02) -/
theorem catalogue_resolution_depends_on_denotation (t₁ t₂ : Items)
    (hsep : KeysSeparate catState.unitEnv t₁ t₂) (h₁ : Clean t₁) (h₂ : Clean t₂)
    (hn : numVal (expanded catState.unitEnv t₁) = numVal (expanded catState.unitEnv t₂))
    (he : ∀ a, expOf a (expanded catState.unitEnv t₁) = expOf a (expanded catState.unitEnv t₂)) :
    catState.amntAndUnit t₁ = catState.amntAndUnit t₂ :=
  C02.resolution_depends_on_denotation _ catalogue_defsBaseOnly catalogue_baseNoConv t₁ t₂ hsep h₁ h₂ hn he

/-- non-vacuity of C02's completeness theorem (`amntAndUnit_complete`): km/min
in the catalogue (units 14 and 25) — no unit `km/min` exists; the reference
unit m/s of Velocity (unit 52, registered under `m·s⁻¹`) carries the exponents;
every hypothesis of the theorem is met, and the resolution indeed succeeds
(with factor 50/3) -/
theorem km_per_min_resolves :
    catState.amntAndUnit (mkTerm catState.unitEnv [(.atom 14, 1), (.atom 25, -1)]) ≠ none := by
  obtain ⟨hexp, hclean, hmem, hnf, hsep⟩ := evaluated.2.2.2.2
  rw [kmPerMin] at hexp hclean hsep
  refine amntAndUnit_complete catState catalogue_defsBaseOnly catalogue_baseNoConv _ hclean mPerS 52
    hmem hnf (by simp [mPerS, numVal]) hsep fun a => ?_
  rw [hexp]
  simp [mPerS, expOf]

end QM.Props.C20
