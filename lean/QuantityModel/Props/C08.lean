/-
C08 — money never mixes currencies implicitly and follows ISO 4217.
`Gen.isoTable` is produced by the translator's own reading of
`money/iso_4217.xml` (not by `currencies.py`); that `currencies.py` reads the
same table is validated exhaustively (all entries, every run) by the
correspondence check.
-/
import QuantityModel.Proofs.Registry
import QuantityModel.Gen.Iso4217
import QuantityModel.Proofs.Quantity
namespace QM.Props.C08
open QM.QState

/-- two distinct currencies: units of one reference-less class, no scales -/
structure TwoCurrencies (s : QState) (u v : Nat) : Prop where
  ne : u ≠ v
  sameCls : s.reg.unitCls u = s.reg.unitCls v
  money : (s.reg.cls (s.reg.unitCls u)).isMoney = true
  noRef : (s.reg.cls (s.reg.unitCls u)).refUnit = none
  eu : (s.reg.unit u).equiv = none
  ev : (s.reg.unit v).equiv = none

variable {s : QState}

/-- with no converter active there is no implicit factor between currencies -/
theorem no_implicit_factor {q : Qty} {v} (h : TwoCurrencies s q.unit v) (hstack : s.mstack = []) :
    s.equivAmount q v = .ok none :=
  equivAmount_no_money_converter (.of_noRef h.sameCls h.ne h.noRef) h.money hstack

variable {d : Rounding}

theorem add_sub_mixed_currencies_rejected (sign : ℚ) {a b : Qty}
    (h : TwoCurrencies s b.unit a.unit) (hstack : s.mstack = []) :
    s.qtyAddSub d sign a b = .error .UnitConversionError := by
  rw [qtyAddSub_same_class sign h.sameCls.symm, no_implicit_factor h hstack]

theorem compare_mixed_currencies_rejected (c : Cmp) {a b : Qty}
    (h : TwoCurrencies s b.unit a.unit) (hstack : s.mstack = []) :
    s.qtyCmp c a b = .error .UnitConversionError := by
  rw [qtyCmp_same_class c h.sameCls.symm, no_implicit_factor h hstack]

theorem equality_mixed_currencies_false {a b : Qty}
    (h : TwoCurrencies s b.unit a.unit) (hstack : s.mstack = []) :
    s.qtyEq a b = .ok false := by
  rw [qtyEq_same_class h.sameCls.symm, no_implicit_factor h hstack]

theorem convert_mixed_currencies_rejected {q : Qty} {v}
    (h : TwoCurrencies s q.unit v) (hstack : s.mstack = []) :
    s.convert d q v = .error .UnitConversionError := by
  rw [QState.convert, no_implicit_factor h hstack]

theorem divide_mixed_currencies_rejected {a b : Qty}
    (h : TwoCurrencies s b.unit a.unit) (hstack : s.mstack = []) :
    (s.qtyDiv d a b).2 = .error .UnitConversionError := by
  rw [qtyDiv_same_class h.sameCls.symm, no_implicit_factor h hstack]

/-- money × money is undefined unless someone declared a unit for money² -/
theorem money_times_money_undefined (u v : Nat)
    (hmiss : s.reg.opCache.lookup (UOp.mul, u, v) = none)
    (hno : s.reg.amntAndUnit (mkTerm s.reg.unitEnv [(.atom u, 1), (.atom v, 1)]) = none) :
    (s.mulUnits u v).2 = .error .UndefinedResultError := by
  unfold QState.mulUnits; simp [hmiss, hno]

variable (table : List (String × String × Nat))

/-- registration against ANY table: an unknown code is rejected and nothing changes -/
theorem unknown_code_rejected (r : RegState) (mc : Nat) (code : String)
    (h1 : ((r.cls mc).units.find? fun u => (r.unit u).symbol == code) = none)
    (h2 : (table.find? fun e => e.1 == code) = none) :
    r.registerCurrency mc table code = (r, .error .valueError) := by
  unfold RegState.registerCurrency; simp [h1, h2]

/-- registering a currency that is already registered returns the same unit
and leaves the state unchanged (idempotent) -/
theorem registration_idempotent (r : RegState) (mc : Nat) (code : String) (u : Nat)
    (h : ((r.cls mc).units.find? fun u => (r.unit u).symbol == code) = some u) :
    r.registerCurrency mc table code = (r, .ok u) := by
  unfold RegState.registerCurrency; simp [h]

/-- a first registration declares the currency with the table's minor units:
smallest fraction = 10^-minor (the quantum every amount is rounded to, C05) -/
theorem first_registration_uses_table (r : RegState) (mc : Nat) (code name : String) (minor : Nat)
    (h1 : ((r.cls mc).units.find? fun u => (r.unit u).symbol == code) = none)
    (h2 : (table.find? fun e => e.1 == code) = some (code, name, minor)) :
    r.registerCurrency mc table code = r.newCurrency mc (some code) (.int minor) .none := by
  unfold RegState.registerCurrency; simp [h1, h2]

theorem new_currency_fraction (r r' : RegState) (mc : Nat) (code : String) (minor : Nat) (uid : Nat)
    (h : r.newCurrency mc (some code) (.int minor) .none = (r', .ok uid))
    (hlt : uid < r'.units.length) :
    (r'.unit uid).smallestFraction = some (1 / (10 : Rat) ^ minor) := by
  obtain ⟨frac, hfrac, h⟩ := newCurrency_fraction r r' mc _ _ _ uid h
  -- a minor unit given as a natural number is an accepted `int`: the fraction is `10 ^ -minor`
  -- (`(minor : ℤ).toNat` is `minor` by computation)
  cases hfrac; exact h

/-- a currency declared with a smallest fraction — alone or together with a
minor unit — and accepted has exactly THAT smallest fraction (also when it is
not a power of ten: 0.05, 0.25); it is the quantum every amount in that
currency is rounded to (`C05.currency_quantum_is_smallest_fraction`) -/
theorem given_smallest_fraction_is_kept (r r' : RegState) (mc : Nat) (sym : Option String)
    (mi : MinorArg) (v : ℚ) (p : Nat) (uid : Nat)
    (h : r.newCurrency mc sym mi (.dec v p) = (r', .ok uid)) (hlt : uid < r'.units.length) :
    (r'.unit uid).smallestFraction = some v ∧ r'.unitQuantum uid = some v := by
  obtain ⟨frac, hfrac, key⟩ := newCurrency_fraction r r' mc _ _ _ uid h
  cases hfrac
  refine ⟨key, ?_⟩
  unfold RegState.unitQuantum; simp [key]

/-- a currency code read as a number (its bytes as digits to the base 256) -/
private def codeKey (s : String) : Nat :=
  s.toByteArray.data.toList.foldl (fun a b => a * 256 + b.toNat) 0

/-- `List.Nodup` is decided by comparing all pairs (14,000 here), which is slow
in the kernel whatever the type of the elements; numeric keys are sorted and
scanned once instead.  Elements with different keys are different, so the key
need not be injective. -/
private theorem nodup_of_sorted_keys {α} (key : α → Nat) (l : List α)
    (h : ((l.map key).insertionSort (· ≤ ·)).IsChain (· < ·)) : l.Nodup := by
  refine List.Nodup.of_map key ?_
  rw [← (List.perm_insertionSort (· ≤ ·) _).nodup_iff]
  exact (List.isChain_iff_pairwise.mp h).imp ne_of_lt

theorem iso_table_facts :
    Gen.isoTable.length = 167 ∧
    (Gen.isoTable.map (·.1)).Nodup ∧
    Gen.isoTable.all (fun e => e.2.2 == 0 || e.2.2 == 2 || e.2.2 == 3 || e.2.2 == 4) = true ∧
    Gen.isoTable.all (fun e => e.1.length == 3) = true :=
  ⟨by decide +kernel, nodup_of_sorted_keys codeKey _ (by decide +kernel), by decide +kernel,
    by decide +kernel⟩

theorem iso_table_samples :
    (Gen.isoTable.find? fun e => e.1 == "EUR") = some ("EUR", "Euro", 2) ∧
    (Gen.isoTable.find? fun e => e.1 == "JPY") = some ("JPY", "Yen", 0) ∧
    (Gen.isoTable.find? fun e => e.1 == "BHD") = some ("BHD", "Bahraini Dinar", 3) ∧
    (Gen.isoTable.find? fun e => e.1 == "CLF") = some ("CLF", "Unidad de Fomento", 4) := by
  decide +kernel

/-! ### user currencies: the validation table of `MoneyMeta.new_unit` -/

theorem negative_minor_unit_rejected (r : RegState) (mc : Nat) (sym : Option String) (n : Int)
    (h : n < 0) (sf : SfArg) : r.newCurrency mc sym (.int n) sf = (r, .error .valueError) := by
  unfold RegState.newCurrency; simp [h]

theorem non_integral_minor_unit_rejected (r : RegState) (mc : Nat) (sym : Option String)
    (sf : SfArg) : r.newCurrency mc sym .nonInt sf = (r, .error .typeError) := by
  unfold RegState.newCurrency; simp

theorem fraction_not_fitting_minor_unit_rejected (r : RegState) (mc : Nat) (sym : Option String)
    (n : Int) (hn : 0 ≤ n) (v : Rat) (p : Nat) (h : n ≠ p) :
    r.newCurrency mc sym (.int n) (.dec v p) = (r, .error .valueError) := by
  unfold RegState.newCurrency
  have : ¬ n < 0 := by omega
  simp [this, h]

/-- a rejected currency declaration leaves no trace (C16 for currencies) -/
def NoTrace (s : RegState) (r : RegState × Except DeclErr Nat) : Prop :=
  ∀ e, r.2 = .error e → r.1 = s

theorem rejected_currency_no_trace (r : RegState) (mc : Nat) (sym : Option String)
    (mi : MinorArg) (sf : SfArg) : NoTrace r (r.newCurrency mc sym mi sf) :=
  newCurrency_cases r mc sym mi sf (rejected := fun _ _ _ => rfl)
    (made := fun _ _ _ _ _ _ _ _ h => nomatch h)

end QM.Props.C08
