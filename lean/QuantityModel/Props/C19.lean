/-
C19 — objects that compare equal hash equal.
`…HashKey` is the value the code feeds to Python's `hash`; that `hash` maps
equal numbers (int / Decimal / Fraction), equal strings and equal tuples to
equal values is CPython's / decimalfp's contract and is trusted.
-/
import QuantityModel.Proofs.Quantity
import QuantityModel.Props.C07
import QuantityModel.Props.C04
namespace QM.Props.C19
open QM.QState

variable {s : QState}

private theorem qtyHashKey_scaled {x : Qty} {e : ℚ}
    (hr : (s.reg.cls (s.reg.unitCls x.unit)).refUnit.isSome = true)
    (he : (s.reg.unit x.unit).equiv = some e) :
    s.qtyHashKey x = .ref (x.amount * e) (s.reg.unitCls x.unit) := by
  obtain ⟨r, hr⟩ := Option.isSome_iff_exists.mp hr
  simp only [QState.qtyHashKey, hr, he]

/-- quantities of a type with reference unit: equal ⇒ same hash key, whatever
their units (1 km and 1000 m) -/
theorem equal_quantities_hash_equal {x y : Qty} {a b : ℚ} (h : Linear s.reg y.unit x.unit b a)
    (ha : a ≠ 0) (heq : s.qtyEq x y = .ok true) : s.qtyHashKey x = s.qtyHashKey y := by
  rw [QM.Props.C04.eq_iff_reference_values_equal h ha, Except.ok.injEq, decide_eq_true_eq] at heq
  rw [qtyHashKey_scaled (h.sameCls ▸ h.hasRef) h.ev, qtyHashKey_scaled h.hasRef h.eu, h.sameCls,
    mul_comm, heq, mul_comm]

/-- the amount's representation (Decimal vs Fraction) does not enter the key:
the key is a function of the *value* -/
theorem hash_key_depends_on_value_only (x y : Qty) (h : x = y) :
    s.qtyHashKey x = s.qtyHashKey y := by rw [h]

/-- terms: equal ⇒ same hash key (C07) -/
theorem equal_terms_hash_equal (env : Env) (t₁ t₂ : Items) (h : termEq env t₁ t₂ = true) :
    termHashKey env t₁ = termHashKey env t₂ :=
  Props.C07.eq_implies_same_hash_key env t₁ t₂ h

/-! ### Known findings kept visible.
(D13u) Units: `==` compares class and scale, the hash is built from the
symbol; two units of one type with the same scale (litre, cubic decimetre)
are equal and hash differently.  Negation witness: -/
def twoSameScaleUnits : QState :=
  let s0 := RegState.init
  let s1 := (s0.declClass { name := "V", defineAs := none, refUnitSymbol := some "m3", quantum := none }).1
  let s2 := (s1.newUnit 1 (some "dm3") (.qty (1/1000) 0)).1
  let s3 := (s2.newUnit 1 (some "l") (.qty (1/1000) 0)).1
  { reg := s3 }

theorem equal_units_hash_equal_FALSE :
    twoSameScaleUnits.reg.unitEq 1 2 = some true ∧
    twoSameScaleUnits.unitHashKey 1 ≠ twoSameScaleUnits.unitHashKey 2 := by
  decide +kernel

/-- (D13c) quantities of a type WITHOUT reference unit that are equal through a
registered converter (0 °C and 273.15 K) keep distinct keys `(amount, unit)`;
no key can be both converter-independent and consistent. -/
theorem raw_keys_differ_across_units (a b : ℚ) (u v : Nat) (h : u ≠ v) :
    QHashKey.raw a u ≠ QHashKey.raw b v := by
  intro hh; injection hh with _ h2; exact h h2

end QM.Props.C19
