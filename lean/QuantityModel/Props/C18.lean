/-
C18 — construction is exact and the text form round-trips.

Exactness of construction: the model's amounts are rationals and the
constructor only rounds to a quantum (C05); for floats the harness feeds the
exact binary value (`float.as_integer_ratio`) and checks that the real
constructor holds exactly that value.  Text: `renderQty` is `str(q)` =
`format(q)`; `parseQtyStr` is the string branch of the constructor.  The
literal grammar beyond the modelled subset is Python's (trusted, not generated).
-/
import QuantityModel.Proofs.Text
import QuantityModel.Proofs.Quantity
namespace QM.Props.C18

/-- the digits printed for a natural number read back as that number -/
theorem digits_round_trip (n : Nat) : parseNat (natDigits n) = some n := parseNat_natDigits n

/-- `str` of a Decimal amount with internal value `v` and ANY precision `p`
(trailing zeros included) parses back to exactly `v / 10^p` -/
theorem decimal_text_round_trip (v : ℤ) (p : Nat) :
    parseAmountStr (renderDec v p) = .ok ((v : ℚ) / (10 : ℚ) ^ p) := parse_render_dec v p

/-- `str` of a Fraction amount (`n/d`, or `n` when integral) parses back to
exactly that rational -/
theorem fraction_text_round_trip (q : ℚ) : parseAmountStr (renderFrac q) = .ok q :=
  parse_render_frac q

/-- `str(q)` is the amount, one blank and the unit symbol; parsing it yields
exactly the amount's value and that symbol — symbols with inner blanks
included (the text is split at the first blank) -/
theorem quantity_text_round_trip (a : AmountRepr) (sym : String)
    (hs : stripChars sym.toList = sym.toList) :
    parseQtyStr (renderQty a sym) = .ok (a.val, some sym.toList) :=
  parse_render_qty a sym.toList hs

/-- hence: parsing `str(q)` through the generic factory or through `q`'s own
type re-creates `q` (same type, unit and amount) when the type has no quantum -/
theorem parse_str_recreates_quantity (s : RegState) (d : Rounding) (a : AmountRepr) (u : Nat)
    (hq : s.unitQuantum u = none) :
    s.mkQty d none a.val u = .ok ⟨a.val, u⟩ ∧
    s.mkQty d (some (s.unitCls u)) a.val u = .ok ⟨a.val, u⟩ := by
  have h := mkQty_no_quantum (d := d) (a := a.val) rfl hq
  exact ⟨mkQty_own_class ▸ h, h⟩

theorem malformed_amounts_rejected :
    parseAmountStr "abc".toList = .error .QuantityError ∧
    parseAmountStr "".toList = .error .QuantityError ∧
    parseAmountStr "1.5.2".toList = .error .QuantityError ∧
    parseAmountStr "1/0".toList = .error .QuantityError ∧
    parseAmountStr "--1".toList = .error .QuantityError ∧
    parseAmountStr "1e".toList = .error .QuantityError := by
  refine ⟨?_, ?_, ?_, ?_, ?_, ?_⟩ <;> decide +kernel

/-- a tab is not a separator: the token then contains the symbol and is not a number -/
theorem tab_is_not_a_separator :
    (parseQtyStr "1.5\tm".toList).toOption = none := by decide +kernel

/-- the accepted literal forms denote what they say -/
theorem literal_forms :
    parseAmountStr "-1.50".toList = .ok (-3 / 2) ∧
    parseAmountStr ".5".toList = .ok (1 / 2) ∧
    parseAmountStr "5.".toList = .ok 5 ∧
    parseAmountStr "1.25E-2".toList = .ok (1 / 80) ∧
    parseAmountStr "+7".toList = .ok 7 ∧
    parseAmountStr "10/4".toList = .ok (5 / 2) := by
  refine ⟨?_, ?_, ?_, ?_, ?_, ?_⟩ <;> decide +kernel

/-- leading blanks and several blanks before the symbol are ignored -/
theorem surrounding_blanks_ignored :
    parseQtyStr "   2.5   km/h  ".toList = .ok (5 / 2, some "km/h".toList) := by decide +kernel

/-- non-vacuity of the round trip on a compound, non-ASCII symbol -/
example : String.ofList (renderQty (.dec (-150) 2) "µm/s²") = "-1.50 µm/s²" := by decide +kernel

/-! which quantity a text constructs (`parseQuantity`, executed by the driver) -/

variable {s : QState} {d : Rounding}

/-- **parsing with an explicit different unit equals parsing and then
converting**: text naming unit `u`, explicit unit `ua ≠ u`: the quantity `amt u`
(of `u`'s own type) is built and converted to `ua` — whatever that conversion
does (exact ratio of scales, a registered converter, UnitConversionError,
IncompatibleUnitsError) -/
theorem parse_with_other_unit_is_parse_then_convert (cls : Option Nat) (amt : ℚ) (u ua : Nat)
    (h : u ≠ ua) (q0 : Qty) (hq : s.reg.mkQty d (some (s.reg.unitCls u)) amt u = .ok q0) :
    s.parseQuantity d cls amt (some u) (some ua) = s.convert d q0 ua := by
  simp [QState.parseQuantity, h, hq]

/-- the same explicit unit as in the text, or no explicit unit: constructed in
the text's unit through the factory that was called (a type other than the
unit's own is rejected by the constructor: QuantityError) -/
theorem parse_with_same_unit (cls : Option Nat) (amt : ℚ) (u : Nat) :
    s.parseQuantity d cls amt (some u) (some u) = s.reg.mkQty d cls amt u ∧
    s.parseQuantity d cls amt (some u) none = s.reg.mkQty d cls amt u := by
  unfold QState.parseQuantity; simp

/-- text without symbol: the explicit unit, else the type's reference unit,
else (generic factory, or a type without reference unit) QuantityError -/
theorem parse_without_symbol (cls : Option Nat) (amt : ℚ) :
    (∀ ua, s.parseQuantity d cls amt none (some ua) = s.reg.mkQty d cls amt ua) ∧
    (cls = none → s.parseQuantity d cls amt none none = .error .QuantityError) ∧
    (∀ c, cls = some c → (s.reg.cls c).refUnit = none →
      s.parseQuantity d cls amt none none = .error .QuantityError) ∧
    (∀ c ru, cls = some c → (s.reg.cls c).refUnit = some ru →
      s.parseQuantity d cls amt none none = s.reg.mkQty d cls amt ru) := by
  refine ⟨fun ua => ?_, fun h => ?_, fun c h hr => ?_, fun c ru h hr => ?_⟩ <;>
    unfold QState.parseQuantity <;> simp_all

/-- through the factory of another type the text is rejected: QuantityError -/
theorem parse_through_other_type_rejected (c : Nat) (amt : ℚ) (u : Nat) (h : c ≠ s.reg.unitCls u) :
    s.parseQuantity d (some c) amt (some u) none = .error .QuantityError :=
  mkQty_other_class h

end QM.Props.C18
