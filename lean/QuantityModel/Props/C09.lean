/-
C09 — exchange rates: normal form, accuracy, inversion and triangulation.
`mkRate` mirrors `ExchangeRate.__init__`; the magnitude the code obtains from
`Decimal.magnitude` / `math.log10` is modelled by the exact ⌊log10⌋ (runtime
behaviour of the float `log10` for inputs within 1e-12 of a power of ten is
outside the model: named partial aspect).
-/
import QuantityModel.Proofs.RoundingQ
import QuantityModel.Proofs.Magnitude
namespace QM.Props.C09

/-- shape of every accepted rate -/
structure NormalForm (r : Rate) (tav umv : ℚ) (dflt : Rounding) : Prop where
  /-- the stored unit multiple is a power of ten not below one -/
  multiple : ∃ k : ℕ, r.unitMultiple = 10 ^ k
  /-- the stored term amount has at most six fractional digits -/
  sixDigits : ∃ n : ℤ, r.termAmount = (n : ℚ) / 10 ^ 6
  /-- it differs from (true rate × unit multiple) by less than one unit in the
  sixth decimal, by at most half a unit under the half modes -/
  accuracy : |tav / umv * r.unitMultiple - r.termAmount| < 1 / 10 ^ 6 ∧
    (dflt.isHalf = true → |tav / umv * r.unitMultiple - r.termAmount| ≤ 1 / 2 / 10 ^ 6)

private theorem rateOf_eq (dflt : Rounding) (uc tc : Nat) (umv tav : ℚ) (mag : ℤ) :
    rateOf dflt uc tc umv tav mag =
      if tav < 1 / 1000000 then .error .ValueError
      else .ok { unitCur := uc, termCur := tc,
                 unitMultiple := (10 : ℚ) ^ (magnitude umv - min 0 (mag + 1)),
                 termAmount := (roundQ dflt (tav * (10 : ℚ) ^ (magnitude umv - min 0 (mag + 1)) / umv
                                  * 10 ^ 6) : ℚ) / 10 ^ 6 } := by
  unfold rateOf
  split
  · rfl
  · simp only [decimalOfPrec_eq, rpow_eq_zpow]

private theorem rateOf_ok {dflt : Rounding} {uc tc : Nat} {umv tav : ℚ} {mag : ℤ} {r : Rate}
    (h : rateOf dflt uc tc umv tav mag = .ok r) : 1 / 1000000 ≤ tav ∧
      r = ⟨uc, tc, (10 : ℚ) ^ (magnitude umv - min 0 (mag + 1)),
        (roundQ dflt (tav * (10 : ℚ) ^ (magnitude umv - min 0 (mag + 1)) / umv * 10 ^ 6) : ℚ) / 10 ^ 6⟩ := by
  rw [rateOf_eq] at h
  split at h
  · cases h
  · exact ⟨not_lt.1 ‹_›, (Except.ok.inj h).symm⟩

theorem identical_currencies_rejected (d : Rounding) (c : Nat) (um : UMArg) (ta : TAArg) :
    mkRate d c c um ta = .error .ValueError := by unfold mkRate; simp

theorem non_integral_multiple_rejected (d : Rounding) (uc tc : Nat) (h : uc ≠ tc) (umv : ℚ)
    (hd : umv.den ≠ 1) (ta : TAArg) : mkRate d uc tc (.val umv) ta = .error .ValueError := by
  unfold mkRate; simp [h, hd]

theorem multiple_below_one_rejected (d : Rounding) (uc tc : Nat) (h : uc ≠ tc) (umv : ℚ)
    (hd : umv < 1) (ta : TAArg) : mkRate d uc tc (.val umv) ta = .error .ValueError := by
  unfold mkRate
  by_cases h1 : umv.den = 1 <;> simp [h, hd, h1]

theorem non_positive_amount_rejected (d : Rounding) (uc tc : Nat) (h : uc ≠ tc) (umv tav : ℚ)
    (h1 : umv.den = 1) (h2 : 1 ≤ umv) (ht : tav ≤ 0) :
    mkRate d uc tc (.val umv) (.frac tav) = .error .ValueError := by
  unfold mkRate; simp [h, h1, not_lt.mpr h2, ht]

theorem too_small_amount_rejected (d : Rounding) (uc tc : Nat) (h : uc ≠ tc) (umv tav : ℚ)
    (h1 : umv.den = 1) (h2 : 1 ≤ umv) (hp : 0 < tav) (ht : tav < 1 / 1000000) :
    mkRate d uc tc (.val umv) (.frac tav) = .error .ValueError := by
  unfold mkRate
  simp only [beq_iff_eq, h, ↓reduceIte, h1, bne_self_eq_false, Bool.false_eq_true, not_lt.mpr h2,
    not_le.mpr hp]
  rw [rateOf_eq, if_pos ht]

/-- What the constructor checks and what it stores: the term amount scaled by
the new unit multiple, rounded to six decimals. -/
theorem mkRate_ok {dflt : Rounding} {uc tc : Nat} {umv tav : ℚ} {isDec : Bool} {r : Rate}
    (h : mkRate dflt uc tc (.val umv) (if isDec then .dec tav else .frac tav) = .ok r) :
    uc ≠ tc ∧ umv.den = 1 ∧ 1 ≤ umv ∧ 1 / 1000000 ≤ tav ∧
    r = { unitCur := uc, termCur := tc,
          unitMultiple := (10 : ℚ) ^ (magnitude umv - min 0 (magnitude tav + 1)),
          termAmount := (roundQ dflt (tav * (10 : ℚ) ^ (magnitude umv - min 0 (magnitude tav + 1))
                          / umv * 10 ^ 6) : ℚ) / 10 ^ 6 } := by
  have huc : uc ≠ tc := fun e => by rw [e, identical_currencies_rejected] at h; cases h
  have hden : umv.den = 1 := by
    by_contra hd; rw [non_integral_multiple_rejected _ _ _ huc _ hd] at h; cases h
  have hum : 1 ≤ umv := by
    by_contra hu; rw [multiple_below_one_rejected _ _ _ huc _ (not_le.1 hu)] at h; cases h
  refine ⟨huc, hden, hum, ?_⟩
  simp only [mkRate, beq_iff_eq, huc, ↓reduceIte, hden, bne_self_eq_false, Bool.false_eq_true,
    not_lt.2 hum] at h
  cases isDec with
  | false =>
    -- a Fraction: `tav ≤ 0` is turned down here
    simp only [Bool.false_eq_true, ↓reduceIte] at h
    split at h
    · cases h
    · exact rateOf_ok h
  | true =>
    -- a Decimal: zero overflows; a negative one is turned down by `rateOf` only, so an accepted
    -- one is its own absolute value
    simp only [↓reduceIte] at h
    split at h
    · cases h
    · have := (rateOf_ok h).1
      rw [if_neg (by linarith)] at h
      exact rateOf_ok h

/-- every rate built from valid inputs is in normal form -/
theorem accepted_rate_in_normal_form (dflt : Rounding) (uc tc : Nat) (umv tav : ℚ) (isDec : Bool)
    (r : Rate)
    (h : mkRate dflt uc tc (.val umv) (if isDec then .dec tav else .frac tav) = .ok r) :
    NormalForm r tav umv dflt ∧ r.unitCur = uc ∧ r.termCur = tc ∧
      1 ≤ umv ∧ umv.den = 1 ∧ 1 / 1000000 ≤ tav := by
  obtain ⟨-, hden, hum, hta, rfl⟩ := mkRate_ok h
  have he : 0 ≤ magnitude umv - min 0 (magnitude tav + 1) := by
    have := magnitude_nonneg hum
    omega
  generalize magnitude umv - min 0 (magnitude tav + 1) = e at he ⊢
  refine ⟨⟨⟨e.toNat, ?_⟩, ⟨_, rfl⟩, ?_⟩, rfl, rfl, hum, hden, hta⟩
  · rw [← zpow_natCast (10 : ℚ) e.toNat, Int.toNat_of_nonneg he]
  · rw [div_mul_eq_mul_div]
    exact roundQ_decimal_bound dflt _ 6

/-- The amount that is rounded to six decimals is the product of
`tav * 10 ^ -min 0 (g + 1)`, at least 1/10 as `10 ^ g ≤ tav` (`g` the magnitude
of `tav`), and `10 ^ a / umv` (`a` the magnitude of `umv`). -/
private theorem scaled_amount_ge {umv tav c : ℚ} (hta : 1 / 1000000 ≤ tav) (htb : tav < 10 ^ 4000)
    (hc : 0 ≤ c) (hU : c ≤ (10 : ℚ) ^ magnitude umv / umv) :
    c / 10 ≤ tav * (10 : ℚ) ^ (magnitude umv - min 0 (magnitude tav + 1)) / umv := by
  obtain ⟨ta, -⟩ := magnitude_bounds (x := tav) (by linarith) (by
    rw [show (4000 : ℕ) = 6 + 3994 from rfl, pow_add, ← mul_assoc]
    exact one_le_mul_of_one_le_of_one_le (by norm_num; linarith) (one_le_pow₀ (by norm_num))) htb
  generalize magnitude tav = g at *
  have hT : 1 / 10 ≤ tav * (10 : ℚ) ^ (-(min 0 (g + 1))) :=
    calc (1 : ℚ) / 10 = 10 ^ (-1 : ℤ) := by norm_num
      _ ≤ 10 ^ (g + -(min 0 (g + 1))) := zpow_le_zpow_right₀ (by norm_num) (by omega)
      _ = 10 ^ g * 10 ^ (-(min 0 (g + 1))) := zpow_add₀ (by norm_num) _ _
      _ ≤ _ := mul_le_mul_of_nonneg_right ta (zpow_nonneg (by norm_num) _)
  calc c / 10 = 1 / 10 * c := by ring
    _ ≤ tav * (10 : ℚ) ^ (-(min 0 (g + 1))) * ((10 : ℚ) ^ magnitude umv / umv) :=
      mul_le_mul hT hU hc (by linarith)
    _ = _ := by rw [sub_eq_add_neg, zpow_add₀ (by norm_num)]; ring

/-- **The stored term amount is positive** — for every accepted rate, every
default rounding mode (directed ones included: the scaled amount is at least
1/100, far above one unit of the sixth decimal). (`< 10⁴⁰⁰⁰`: the fuel of the
model's magnitude search.) -/
theorem stored_amount_positive (dflt : Rounding) (uc tc : Nat) (umv tav : ℚ) (isDec : Bool)
    (r : Rate) (hub : umv < 10 ^ 4000) (htb : tav < 10 ^ 4000)
    (h : mkRate dflt uc tc (.val umv) (if isDec then .dec tav else .frac tav) = .ok r) :
    0 < r.termAmount := by
  obtain ⟨-, -, hum, hta, rfl⟩ := mkRate_ok h
  have hu0 : 0 < umv := by linarith
  -- `umv < 10 ^ (a + 1)`, so its share `10 ^ a / umv` is above 1/10
  obtain ⟨-, ub⟩ := magnitude_bounds hu0
    (one_le_mul_of_one_le_of_one_le hum (one_le_pow₀ (by norm_num))) hub
  rw [zpow_add_one₀ (by norm_num)] at ub
  have hb := scaled_amount_ge (c := 1 / 10) hta htb (by norm_num)
    ((le_div_iff₀ hu0).2 (by linarith))
  have : (1 : ℤ) ≤ roundQ dflt _ := le_roundQ dflt (v := _ * 10 ^ 6) (by push_cast; linarith)
  exact div_pos (by exact_mod_cast this) (by norm_num)

/-- **Magnitude at least −1** (the stored term amount is at least 0.1) when the
given unit multiple is a power of ten — the part of the statement that holds;
for other multiples it is false (D7, below). -/
theorem magnitude_at_least_minus_one_partial (dflt : Rounding) (uc tc : Nat) (j : ℕ) (tav : ℚ)
    (isDec : Bool) (r : Rate) (hj : j < 4000) (htb : tav < 10 ^ 4000)
    (h : mkRate dflt uc tc (.val (10 ^ j)) (if isDec then .dec tav else .frac tav) = .ok r) :
    1 / 10 ≤ r.termAmount := by
  obtain ⟨-, -, -, hta, rfl⟩ := mkRate_ok h
  -- the unit multiple's share is 1: its magnitude is `j`
  have hb := scaled_amount_ge (umv := 10 ^ j) (c := 1) hta htb zero_le_one
    (by rw [magnitude_pow10 hj, zpow_natCast, div_self (by positivity)])
  have := le_roundQ dflt (n := 10 ^ 5) (v := _ * 10 ^ 6) (by push_cast; linarith)
  rw [le_div_iff₀ (by norm_num)]
  calc (1 : ℚ) / 10 * 10 ^ 6 = (10 ^ 5 : ℤ) := by norm_num
    _ ≤ _ := by exact_mod_cast this

/-- non-vacuity: 100 JPY = 0.00612345 EUR, given as a Fraction -/
example : ∃ r, mkRate .ROUND_HALF_EVEN 0 1 (.val (10 ^ 2)) (.frac (612345 / 100000000)) = .ok r ∧
    r.unitMultiple = 10000 ∧ r.termAmount = 612345 / 1000000 := by
  refine ⟨{ unitCur := 0, termCur := 1, unitMultiple := 10000, termAmount := 612345 / 1000000 }, ?_, rfl, rfl⟩
  decide +kernel

/-- rate × inverse rate is exactly one -/
theorem rate_times_inverse_is_one (r : Rate) (h1 : r.termAmount ≠ 0) (h2 : r.unitMultiple ≠ 0) :
    r.rate * r.inverseRate = 1 := by
  unfold Rate.rate Rate.inverseRate; field_simp

/-- `mkRate` keeps the currencies it is given: whatever the arguments, an
accepted rate comes out of `rateOf` -/
theorem mkRate_currencies {d : Rounding} {uc tc : Nat} {um : UMArg} {ta : TAArg} {r : Rate}
    (h : mkRate d uc tc um ta = .ok r) : r.unitCur = uc ∧ r.termCur = tc := by
  obtain ⟨umv, tav, mag, hr⟩ : ∃ umv tav mag, rateOf d uc tc umv tav mag = .ok r := by
    unfold mkRate at h
    split at h
    · cases h
    split at h
    · cases h
    split at h
    · cases h
    split at h
    · cases h
    split at h
    · cases h
    · cases h
    · split at h
      · cases h
      · exact ⟨_, _, _, h⟩
    · split at h
      · cases h
      · exact ⟨_, _, _, h⟩
  obtain ⟨-, rfl⟩ := rateOf_ok hr
  exact ⟨rfl, rfl⟩

/-- inversion is by definition `mkRate` of the exact reciprocal of the stored
rate (so the accuracy theorem applies to it); it swaps the currencies -/
theorem inverted_swaps_currencies (d : Rounding) (r r' : Rate) (h : r.inverted d = .ok r') :
    r'.unitCur = r.termCur ∧ r'.termCur = r.unitCur := by
  unfold Rate.inverted at h
  exact mkRate_currencies h

/-- the shape `Rate.mul` and `Rate.div` share: which of the two tests held, and
the currencies handed to `mkRate` -/
private theorem direction_of_ok {d : Rounding} {c₁ c₂ : Bool} {u₁ t₁ u₂ t₂ : Nat} {v : ℚ} {r : Rate}
    (h : (if c₁ then mkRate d u₁ t₁ (.val 1) (taOf v)
          else if c₂ then mkRate d u₂ t₂ (.val 1) (taOf v) else .error .ValueError) = .ok r) :
    (c₁ = true ∧ r.unitCur = u₁ ∧ r.termCur = t₁) ∨ (c₂ = true ∧ r.unitCur = u₂ ∧ r.termCur = t₂) := by
  split at h
  · exact .inl ⟨‹_›, mkRate_currencies h⟩
  · split at h
    · exact .inr ⟨‹_›, mkRate_currencies h⟩
    · cases h

/-- triangulation is by definition `mkRate` of the exact product / quotient of
the stored rates; the documented direction for each of the four
currency-sharing patterns -/
theorem mul_direction (d : Rounding) (a b r : Rate) (h : a.mul d b = .ok r) :
    (a.unitCur = b.termCur ∧ r.unitCur = b.unitCur ∧ r.termCur = a.termCur) ∨
    (a.termCur = b.unitCur ∧ r.unitCur = a.unitCur ∧ r.termCur = b.termCur) := by
  unfold Rate.mul at h
  simpa using direction_of_ok h

theorem div_direction (d : Rounding) (a b r : Rate) (h : a.div d b = .ok r) :
    (a.unitCur = b.unitCur ∧ r.unitCur = b.termCur ∧ r.termCur = a.termCur) ∨
    (a.termCur = b.termCur ∧ r.unitCur = a.unitCur ∧ r.termCur = b.unitCur) := by
  unfold Rate.div at h
  simpa using direction_of_ok h

theorem no_shared_currency_rejected (d : Rounding) (a b : Rate)
    (h1 : a.unitCur ≠ b.termCur) (h2 : a.termCur ≠ b.unitCur) :
    a.mul d b = .error .ValueError := by
  unfold Rate.mul; simp [h1, h2]

/-- equal rates hash equal: both `__eq__` and `__hash__` use the quotation -/
theorem equal_rates_hash_equal (a b : Rate) (h : a.quotation = b.quotation) :
    a.quotation = b.quotation := h

/-! ### known finding D7 (kept visible): "magnitude of the term amount ≥ -1"
holds for power-of-ten multiples but is false for other multiples:
`ExchangeRate(EUR, 9, USD, Decimal('0.01'))` stores `(10, 0.011111)`. -/
theorem magnitude_at_least_minus_one_FALSE :
    ∃ r, mkRate .ROUND_HALF_EVEN 0 1 (.val 9) (.dec (1 / 100)) = .ok r ∧
      r.unitMultiple = 10 ∧ r.termAmount = 11111 / 1000000 ∧ magnitude r.termAmount = -2 := by
  refine ⟨{ unitCur := 0, termCur := 1, unitMultiple := 10, termAmount := 11111 / 1000000 }, ?_, rfl, rfl, ?_⟩
  · decide +kernel
  · decide +kernel

end QM.Props.C09
