/-
C02 — products, quotients and powers respect dimensions and scales.

Values are taken under every admissible valuation `ν` of the units (a unit is
worth what its normalised definition denotes, convertible units are related by
their factor; C07).  Since `ν` ranges over all such valuations, "same value"
is "same factor and same exponent for every base unit": dimension and scale in
one statement, uniformly for types with and without reference unit.
`TermMapSound` is the directory invariant (entries keyed by the unit's own
normalised definition), `CacheSound` the cache invariant (C17).
-/
import QuantityModel.Proofs.Quantity
import QuantityModel.Proofs.Resolve
import QuantityModel.Proofs.RefUnique
namespace QM.Props.C02

variable {s : QState} {ν : Nat → ℚ}

/-- unit × unit: `(f, w)` with `f · w` worth exactly the product; `w = None`
means the dimensions cancel and `f` is the exact plain number -/
theorem unit_product_value (hA : Admissible s.reg ν) (hT : TermMapSound s.reg)
    (hC : CacheSound s.reg ν) (u v : Nat) (f : ℚ) (w : Option Nat)
    (h : (s.mulUnits u v).2 = .ok (f, w)) : f * optVal ν w = ν u * ν v :=
  (mulUnits_sound s ν hA hT hC u v).1 f w h

/-- unit / unit: exactly the quotient -/
theorem unit_quotient_value (hA : Admissible s.reg ν) (hT : TermMapSound s.reg)
    (hC : CacheSound s.reg ν) (u v : Nat)
    (href : s.reg.unitCls u = s.reg.unitCls v →
      (s.reg.cls (s.reg.unitCls u)).refUnit.isSome = true)
    (f : ℚ) (w : Option Nat) (h : (s.divUnits u v).2 = .ok (f, w)) :
    f * optVal ν w = ν u / ν v :=
  (divUnits_sound s ν hA hT hC u v href).1 f w h

/-- resolution of any unit term (also used by `**` and by rate application) -/
theorem resolved_term_value (hA : Admissible s.reg ν) (hT : TermMapSound s.reg)
    (t : Items) (f : ℚ) (w : Option Nat) (h : s.reg.amntAndUnit t = some (f, w)) :
    f * optVal ν w = den ν t :=
  amntAndUnit_sound s.reg ν hA hT t f w h

/-- the product of units is undefined exactly when the directory has no unit
for the normalised result term nor for that term without its numeric factor
(for types with reference unit: no declared type has the combined dimension,
because a type's reference unit is registered under the product of the base
reference units — C15/C20) -/
theorem unit_product_undefined_iff (u v : Nat)
    (hmiss : s.reg.opCache.lookup (UOp.mul, u, v) = none) :
    (s.mulUnits u v).2 = .error .UndefinedResultError ↔
      s.reg.amntAndUnit (mkTerm s.reg.unitEnv [(.atom u, 1), (.atom v, 1)]) = none := by
  unfold QState.mulUnits
  simp only [hmiss]
  cases h : s.reg.amntAndUnit (mkTerm s.reg.unitEnv [(.atom u, 1), (.atom v, 1)]) <;> simp

/-- no other error is possible for unit × unit -/
theorem unit_product_only_undefined (u v : Nat) (e : Err)
    (h : (s.mulUnits u v).2 = .error e) : e = .UndefinedResultError := by
  unfold QState.mulUnits at h
  split at h
  · cases h
  · simp only at h
    split at h <;> cases h
    rfl

/-- quantity × quantity: the amount is `a · b · f`, constructed once in the
resolved unit; when the dimensions cancel the plain exact number is returned -/
theorem quantity_product (d : Rounding) (a b : Qty) (f : ℚ) (w : Option Nat)
    (h : (s.mulUnits a.unit b.unit).2 = .ok (f, w)) :
    (s.qtyMul d a b).2 = (s.mulUnits a.unit b.unit).1.numTimesUnit d (a.amount * b.amount * f) w := by
  unfold QState.qtyMul
  generalize hm : s.mulUnits a.unit b.unit = r at h ⊢
  obtain ⟨s', x⟩ := r
  simp only at h; subst h; rfl

theorem cancelling_product_is_plain_number (d : Rounding) (a : ℚ) :
    s.numTimesUnit d a none = .ok (.num a) := rfl

/-- multiplying / dividing by a plain number scales the amount and keeps unit
and type (no quantum) -/
theorem number_scales_amount (d : Rounding) (x : Qty) (k : ℚ)
    (hq : s.reg.unitQuantum x.unit = none) :
    s.qtyScale d x k = .ok (.qty ⟨x.amount * k, x.unit⟩) ∧
    (k ≠ 0 → s.qtyDivNum d x k = .ok (.qty ⟨x.amount / k, x.unit⟩)) := by
  constructor
  · unfold QState.qtyScale; rw [mkQty_no_quantum rfl hq]; rfl
  · intro hk; unfold QState.qtyDivNum; simp only [hk, ↓reduceIte]; rw [mkQty_no_quantum rfl hq]; rfl

/-- same-type division returns the plain exact ratio of reference values -/
theorem same_type_quotient_is_plain_ratio (d : Rounding) (x y : Qty) {a b : ℚ}
    (h : Linear s.reg y.unit x.unit b a) (ha : a ≠ 0) (hy : b / a * y.amount ≠ 0) :
    (s.qtyDiv d x y).2 = .ok (.num (x.amount / (b / a * y.amount))) := by
  rw [qtyDiv_same_class h.sameCls.symm, equivAmount_linear h ha]
  simp [hy]

/-- `unit ** 0` is the number one, `unit ** 1` the unit itself -/
theorem unit_pow_zero_one (d : Rounding) (u : Nat) :
    s.powUnit d u 0 = .ok (.num 1) ∧
    s.powUnit d u 1 = (s.reg.mkQty d (some (s.reg.unitCls u)) 1 u).map Val.qty := by
  constructor <;> simp [QState.powUnit]

/-- **The resolution of a unit term is a function of what the term denotes.**
Two terms with the same normal form resolve to the same `(factor, unit)` or
both to "undefined" ... -/
theorem resolution_depends_on_normal_form (r : RegState) (t₁ t₂ : Items)
    (h : termNormalized r.unitEnv t₁ = termNormalized r.unitEnv t₂) :
    r.amntAndUnit t₁ = r.amntAndUnit t₂ := by
  unfold RegState.amntAndUnit RegState.unitFromTerm
  have he : ∀ x, termEq r.unitEnv x t₁ = termEq r.unitEnv x t₂ := by
    intro x; unfold termEq; rw [h]
  simp only [he, h]

/-- ... hence, by C07's equivalence, two (constructed) terms that denote the
same rational factor and the same exponent for every base unit — `km·h` and
`h·km`, `m/s` written either way, a product of three units bracketed either
way — get the same result type, unit and factor, or are both undefined:
whether a product is defined depends on its dimension and scale only. -/
theorem resolution_depends_on_denotation (r : RegState)
    (hd : DefsBaseOnly r.unitEnv) (hnc : BaseNoConv r.unitEnv) (t₁ t₂ : Items)
    (hsep : KeysSeparate r.unitEnv t₁ t₂) (h₁ : Clean t₁) (h₂ : Clean t₂)
    (hn : numVal (expanded r.unitEnv t₁) = numVal (expanded r.unitEnv t₂))
    (he : ∀ a, expOf a (expanded r.unitEnv t₁) = expOf a (expanded r.unitEnv t₂)) :
    r.amntAndUnit t₁ = r.amntAndUnit t₂ :=
  resolution_depends_on_normal_form r t₁ t₂ <| by
    simpa [termEq] using
      (termEq_iff r.unitEnv (keysNonneg_unitEnv r) hd hnc t₁ t₂ hsep h₁ h₂).mpr ⟨hn, he⟩

/-- **Completeness: a product is defined whenever a type of the combined
dimension is declared.**  `K` is the key under which some unit `w` is
registered in the term directory — for a type with reference unit, the
normalised definition of its reference unit: the product of the base types'
reference units, with factor 1 — and it carries exactly the exponents the term
`t` (e.g. `u·v`, `u/v`, `u^n`) denotes.  Then the resolution of `t` does not
fail, whatever numeric factor `t` carries.  (With a registered unit of that
dimension but another factor only, the second look-up misses: known finding D2.) -/
theorem resolution_complete (r : RegState)
    (hd : DefsBaseOnly r.unitEnv) (hnc : BaseNoConv r.unitEnv)
    (t : Items) (ht : Clean t) (K : Items) (w : Nat) (hK : (K, w) ∈ r.termMap)
    (hKnf : normalizedItems r.unitEnv K = K)
    (hK1 : numVal K = 1) (hsep : KeysSeparate r.unitEnv t K)
    (hexp : ∀ a, expOf a (expanded r.unitEnv t) = expOf a K) :
    r.amntAndUnit t ≠ none :=
  amntAndUnit_complete r hd hnc t ht K w hK hKnf hK1 hsep hexp

/-- the same in every registry reachable by well-formed declarations, for
terms over units that have a scale: no hypothesis on the registry is left
(`BaseNoConv` and the separation of sort keys are theorems there,
Proofs/RefUnique.lean) -/
theorem resolution_complete_reachable (r : RegState) (h : ReachableWF r)
    (t : Items) (ht : Clean t) (K : Items) (w : Nat) (hK : (K, w) ∈ r.termMap)
    (hKnf : normalizedItems r.unitEnv K = K) (hK1 : numVal K = 1)
    (hst : ScaledAtoms r.unitEnv t) (hsK : ScaledAtoms r.unitEnv K)
    (hexp : ∀ a, expOf a (expanded r.unitEnv t) = expOf a K) :
    r.amntAndUnit t ≠ none :=
  amntAndUnit_complete r (defsBaseOnly_of_scaleInv r (reachableWF_scaleInv h))
    (reachable_baseNoConv h.reachable) t ht K w hK hKnf hK1
    (keysSeparate_of_scaled r (reachableWF_scaleInv h) (reachable_refInv h.reachable) t K hst hsK)
    hexp

/-- ... so `unit × unit` raises UndefinedResultError only if no such unit is
registered (with `unit_product_undefined_iff`: exactly then, for types with
reference unit) -/
theorem unit_product_defined_of_registered_dimension (u v : Nat)
    (hmiss : s.reg.opCache.lookup (UOp.mul, u, v) = none)
    (hd : DefsBaseOnly s.reg.unitEnv) (hnc : BaseNoConv s.reg.unitEnv)
    (ht : Clean (mkTerm s.reg.unitEnv [(.atom u, 1), (.atom v, 1)]))
    (K : Items) (w : Nat) (hK : (K, w) ∈ s.reg.termMap)
    (hKnf : normalizedItems s.reg.unitEnv K = K)
    (hK1 : numVal K = 1)
    (hsep : KeysSeparate s.reg.unitEnv (mkTerm s.reg.unitEnv [(.atom u, 1), (.atom v, 1)]) K)
    (hexp : ∀ a, expOf a (expanded s.reg.unitEnv
        (mkTerm s.reg.unitEnv [(.atom u, 1), (.atom v, 1)])) = expOf a K) :
    (s.mulUnits u v).2 ≠ .error .UndefinedResultError := by
  rw [Ne, unit_product_undefined_iff u v hmiss]
  exact amntAndUnit_complete s.reg hd hnc _ ht K w hK hKnf hK1 hsep hexp

/-- `unit_product_value` for EVERY state reachable by declarations (valid or rejected, in
any order) with a fresh operation cache: the directory invariant is not an
assumption but a theorem (`reachable_dirInv`) -/
theorem unit_product_value_reachable (hR : Reachable s.reg) (hcache : s.reg.opCache = [])
    (hA : Admissible s.reg ν) (u v : Nat) (f : ℚ) (w : Option Nat)
    (h : (s.mulUnits u v).2 = .ok (f, w)) : f * optVal ν w = ν u * ν v :=
  (mulUnits_sound s ν hA (reachable_dirInv hR).termMapSound (.of_empty hcache) u v).1 f w h

variable {d : Rounding}

/-- **`k * unit` is the quantity `k unit`**, in the unit's own type; rounded once
to the unit's grid if the type has a quantum (the unit stands for itself, not
for a rounded `1 unit`) -/
theorem number_times_unit (u : Nat) (k : ℚ) :
    (s.reg.unitQuantum u = none → s.unitTimesNum d u k = .ok (.qty ⟨k, u⟩)) ∧
    (∀ qu, s.reg.unitQuantum u = some qu → qu ≠ 0 →
      s.unitTimesNum d u k = .ok (.qty ⟨(roundQ d (k / qu) : ℚ) * qu, u⟩)) := by
  unfold QState.unitTimesNum
  rw [← mkQty_own_class]
  exact ⟨fun hq => by rw [mkQty_no_quantum rfl hq]; rfl,
    fun qu hq hne => by rw [mkQty_quantum rfl hq hne]; rfl⟩

/-- `unit / k` is `1/k unit`; `unit / 0` raises ZeroDivisionError -/
theorem unit_div_number (u : Nat) (k : ℚ) :
    (k = 0 → s.unitDivNum d u k = .error .ZeroDivisionError) ∧
    (k ≠ 0 → s.unitDivNum d u k = s.unitTimesNum d u (1 / k)) := by
  constructor <;> intro h <;> unfold QState.unitDivNum <;> simp [h, QState.unitTimesNum]

end QM.Props.C02
