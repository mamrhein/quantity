/-
C06 — allocation conserves the total and deviates by less than one quantum.
Amounts are in the receiver's unit; `quantum` is its unit's quantum.
The receiver is unchanged because the model is pure; the implementation side
of the correspondence check compares amount and unit before and after and
asserts that no portion is the receiver.
-/
import QuantityModel.Proofs.Allocate
import QuantityModel.Proofs.Quantity
namespace QM.Props.C06

/-- without a quantum every portion is exactly its proportional share and the
remainder is zero -/
theorem no_quantum_exact_shares (d : Rounding) (A : ℚ) (ratios : List ℚ) (disp : Bool)
    (hne : ratios ≠ []) (ht : ratios.sum ≠ 0) :
    allocate d A none ratios disp = .ok (ratios.map (fun r => A * (r / ratios.sum)), 0) := by
  have h1 : ratios.isEmpty = false := by simpa using hne
  have hp : allocPortions d A none ratios = shares A ratios :=
    (allocPortions_eq ..).trans (List.map_id'' (fun _ => rfl) _)
  show _ = Except.ok (shares A ratios, 0)
  simp [allocate, h1, ht, hp, finishAlloc, sum_shares A ht]

/-- portions plus remainder equal the receiver's amount exactly, one portion per
ratio, with or without dispersal, whatever the mode -/
theorem conservation (d : Rounding) (A : ℚ) (quantum : Option ℚ) (ratios : List ℚ) (disp : Bool)
    (ps : List ℚ) (rem : ℚ) (h : allocate d A quantum ratios disp = .ok (ps, rem)) :
    ps.sum + rem = A ∧ ps.length = ratios.length := by
  unfold allocate at h
  split at h
  · simp at h
  · split at h
    · simp at h
    · obtain ⟨h1, h2⟩ := finish_conserves A quantum ratios _ disp ps rem h
      exact ⟨h1, by rw [h2]; simp [allocPortions]⟩

/-- before dispersal every portion is the grid value of its exact share: a
multiple of the quantum less than one quantum away (at most half a quantum
under the half modes) -/
theorem portion_is_rounded_share (d : Rounding) (q share : ℚ) (hq : q ≠ 0) :
    (∃ k : ℤ, toGrid d (some q) share = k * q) ∧
    |toGrid d (some q) share - share| < |q| ∧
    (d.isHalf = true → |toGrid d (some q) share - share| ≤ |q| / 2) :=
  ⟨⟨_, rfl⟩, toGrid_bound d q share hq⟩

/-- without dispersal the remainder is the sum of the rounding errors: smaller
in magnitude than one quantum per portion (half a quantum under half modes) -/
theorem remainder_bound_without_dispersal (d : Rounding) (q : ℚ) (hq : q ≠ 0) (shares : List ℚ) :
    |shares.sum - (shares.map (toGrid d (some q))).sum| ≤ shares.length * |q| ∧
    (d.isHalf = true →
      |shares.sum - (shares.map (toGrid d (some q))).sum| ≤ shares.length * (|q| / 2)) :=
  ⟨abs_sum_sub_sum_map_le _ _ (fun s => by rw [abs_sub_comm]; exact (toGrid_bound d q s hq).1.le) _,
   fun hm => abs_sum_sub_sum_map_le _ _ (fun s => by rw [abs_sub_comm]; exact (toGrid_bound d q s hq).2 hm) _⟩

/-- with a (positive) quantum, a receiver on the grid and the rounding error
dispersed, the remainder is ZERO and every portion is less than one quantum
away from its exact proportional share — for every amount, every list of ratios
with non-zero total, and every default rounding mode.  (Why the loop reaches
zero without pushing a portion out of its quantum: `disperse_spec`.) -/
theorem dispersal_zero_remainder_and_one_quantum_bound (d : Rounding) (A q : ℚ) (hq : 0 < q)
    (kA : ℤ) (hA : A = kA * q) (ratios : List ℚ) (hne : ratios ≠ []) (ht : ratios.sum ≠ 0)
    (ps : List ℚ) (rem : ℚ) (h : allocate d A (some q) ratios true = .ok (ps, rem)) :
    rem = 0 ∧ ps.length = ratios.length ∧
    ∀ i, i < ratios.length → |ps.getD i 0 - A * (ratios.getD i 0 / ratios.sum)| < q := by
  have h1 : ratios.isEmpty = false := by simpa using hne
  simp only [allocate, h1, Bool.false_eq_true, ↓reduceIte, ht, allocPortions_eq] at h
  have hlen : ((shares A ratios).map (toGrid d (some q))).length = ratios.length := by
    rw [List.length_map, length_shares]
  obtain ⟨r1, r2, r3⟩ := finishAlloc_dispersed hq hA ht hlen
    (fun x hx => by
      obtain ⟨s, -, rfl⟩ := List.mem_map.1 hx
      exact ⟨_, rfl⟩)
    (fun i hi => by
      have := (toGrid_bound d q ((shares A ratios).getD i 0) hq.ne').1
      rwa [abs_of_pos hq, ← getD_map_lt (f := toGrid d (some q)) (by simpa using hi)] at this) h
  refine ⟨r1, r2.trans hlen, fun i hi => ?_⟩
  have := r3 i (hlen ▸ hi)
  rwa [getD_shares A hi] at this

/-- a zero total of the ratios is rejected: ZeroDivisionError -/
theorem zero_total_rejected (d : Rounding) (A : ℚ) (quantum : Option ℚ) (ratios : List ℚ)
    (disp : Bool) (hne : ratios ≠ []) (ht : ratios.sum = 0) :
    allocate d A quantum ratios disp = .error .ZeroDivisionError := by
  unfold allocate
  have h1 : ratios.isEmpty = false := by simpa using hne
  simp [h1, ht]

/-! Non-vacuity: 7.77 split 1:1:1:1:7 on a grid of 0.01 under HALF_EVEN with
dispersal (the example of a mis-sorted dispersal loop): conserved, remainder 0,
every portion within one quantum of its share. -/
example : allocate .ROUND_HALF_EVEN (777 / 100) (some (1 / 100)) [1, 1, 1, 1, 7] true =
    .ok ([71 / 100, 71 / 100, 71 / 100, 70 / 100, 494 / 100], 0) := by decide +kernel

/-! the level of quantities (`allocateQty`, executed by the driver) -/

open QM.QState
variable {s : QState}

/-- **`Quantity.allocate` conserves the total**, for number and quantity ratios
alike: portions plus remainder equal the original amount exactly (the portions
are returned in the quantity's own unit and type: `allocateQty` builds amounts
for `a.unit`) -/
theorem allocate_conserves (d : Rounding) (a : Qty) (ratios : List Ratio) (disp : Bool)
    (ps : List ℚ) (rem : ℚ) (h : s.allocateQty d a ratios disp = .ok (ps, rem)) :
    ps.sum + rem = a.amount ∧ ps.length = ratios.length := by
  have := conservation d a.amount _ _ disp ps rem h
  simpa using this

/-- a quantity ratio in a unit of scale `k` of a type with reference unit counts
with its reference value `k · amount`: ratios of one type in DIFFERENT units
are compared by what they are worth (1 kg and 500 g: 2 to 1) -/
theorem quantity_ratio_counts_with_reference_value (x : Qty) (k : ℚ)
    (href : (s.reg.cls (s.reg.unitCls x.unit)).refUnit.isSome = true)
    (hk : (s.reg.unit x.unit).equiv = some k) :
    s.ratioValue (.qty x) = k * x.amount := by
  unfold QState.ratioValue QState.refValue
  simp [href, hk]

theorem number_ratio_counts_as_itself (r : ℚ) : s.ratioValue (.num r) = r := rfl

end QM.Props.C06
