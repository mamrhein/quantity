/-
C03 — addition, subtraction and comparison never mix quantity types.
-/
import QuantityModel.Proofs.Quantity
namespace QM.Props.C03
open QM.QState

variable {s : QState} {d : Rounding}

/-- quantities of different types: `+`, `-` raise IncompatibleUnitsError -/
theorem add_sub_other_type_rejected (sign : ℚ) {a b : Qty}
    (h : s.reg.unitCls a.unit ≠ s.reg.unitCls b.unit) :
    s.qtyAddSub d sign a b = .error .IncompatibleUnitsError := by
  simp [QState.qtyAddSub, h]

/-- ... the four order comparisons too -/
theorem cmp_other_type_rejected (c : Cmp) {a b : Qty}
    (h : s.reg.unitCls a.unit ≠ s.reg.unitCls b.unit) :
    s.qtyCmp c a b = .error .IncompatibleUnitsError := by
  simp [QState.qtyCmp, h]

theorem eq_other_type_false {a b : Qty}
    (h : s.reg.unitCls a.unit ≠ s.reg.unitCls b.unit) : s.qtyEq a b = .ok false := by
  simp [QState.qtyEq, h]

/-- same type, convertible units, no quantum: the result has the left
operand's unit and the exact sum / difference in that unit -/
theorem add_sub_value (sign : ℚ) {x y : Qty} {a b} (h : Linear s.reg y.unit x.unit b a)
    (ha : a ≠ 0) (hq : s.reg.unitQuantum x.unit = none) :
    s.qtyAddSub d sign x y = .ok ⟨x.amount + sign * (b / a * y.amount), x.unit⟩ := by
  rw [qtyAddSub_linear sign h ha]; exact mkQty_no_quantum rfl hq

/-- the reference value of that result (`a` times its amount) is the sum of the
reference values -/
theorem add_reference_value {x y : Qty} {a b} (sign : ℚ) :
    a * (x.amount + sign * (b / a * y.amount)) = a * x.amount + sign * (b * y.amount) ∨ a = 0 := by
  refine or_iff_not_imp_right.2 fun ha => ?_
  field_simp

/-- commutativity, associativity, inverse and distributivity *by value* are
then the field laws of ℚ on reference values: -/
theorem add_comm_by_value (ra rb : ℚ) : ra + rb = rb + ra := add_comm ra rb
theorem add_assoc_by_value (ra rb rc : ℚ) : (ra + rb) + rc = ra + (rb + rc) := add_assoc ra rb rc
theorem neg_is_inverse_by_value (ra : ℚ) : ra + -ra = 0 := add_neg_cancel ra
theorem scalar_distributes_by_value (k ra rb : ℚ) : k * (ra + rb) = k * ra + k * rb := mul_add k ra rb

/-- negation keeps unit and class (no quantum) -/
theorem neg_value {x : Qty} (hq : s.reg.unitQuantum x.unit = none) :
    s.qtyNeg d x = .ok ⟨-x.amount, x.unit⟩ := by
  unfold QState.qtyNeg; exact mkQty_no_quantum rfl hq

/-- two different units of one type WITHOUT reference unit (not money), no
converter registered for the type: whatever factors their definitions carry
(EUR/kg, EUR/g; multiples of definition-less units), nothing converts
(`equivAmount_no_converter`) — so their sum and difference raise
UnitConversionError and they are unequal (the order raises it too, by
`qtyCmp_same_class`; no theorem here says so) -/
theorem add_reference_less_rejected (sign : ℚ) {x y : Qty}
    (hc : s.reg.unitCls x.unit = s.reg.unitCls y.unit) (hne : x.unit ≠ y.unit)
    (href : (s.reg.cls (s.reg.unitCls x.unit)).refUnit = none)
    (hmoney : (s.reg.cls (s.reg.unitCls x.unit)).isMoney = false)
    (hconv : s.clsConverters (s.reg.unitCls x.unit) = []) :
    s.qtyAddSub d sign x y = .error .UnitConversionError := by
  rw [qtyAddSub_same_class sign hc, equivAmount_no_converter
    (NoFactor.of_noRef hc hne href).symm (hc ▸ hmoney) (hc ▸ hconv)]

theorem eq_reference_less_false {x y : Qty}
    (hc : s.reg.unitCls x.unit = s.reg.unitCls y.unit) (hne : x.unit ≠ y.unit)
    (href : (s.reg.cls (s.reg.unitCls x.unit)).refUnit = none)
    (hmoney : (s.reg.cls (s.reg.unitCls x.unit)).isMoney = false)
    (hconv : s.clsConverters (s.reg.unitCls x.unit) = []) :
    s.qtyEq x y = .ok false := by
  rw [qtyEq_same_class hc, equivAmount_no_converter
    (NoFactor.of_noRef hc hne href).symm (hc ▸ hmoney) (hc ▸ hconv)]

end QM.Props.C03
