/-
C13 — quantize and round follow the requested rounding mode exactly.
`Gen.*` is the translation of /repo's `_floordiv_rounded` /
`_quantize_fraction`, regenerated on every run.
-/
import QuantityModel.Proofs.RoundingQ
import QuantityModel.Proofs.Quantity
namespace QM.Props.C13
open QM.Gen QM.QState

/-- The generated kernel returns, for every dividend, every non-zero divisor
and every one of the eight modes, an integer meeting the *standard definition*
of that mode on the exact quotient. -/
theorem floordiv_is_standard_mode (x y : ℤ) (m d : Rounding) (hy : y ≠ 0) :
    ∃ r, floordivRounded x y (some m) d = .ok r ∧ RoundSpecQ m ((x : ℚ) / y) r :=
  ⟨_, floordiv_eq_roundQ x y (some m) d hy, roundQ_spec m _⟩

/-- ... and that definition leaves no freedom: ties, signs and all. -/
theorem standard_mode_is_unique (m : Rounding) (v : ℚ) (r₁ r₂ : ℤ)
    (h₁ : RoundSpecQ m v r₁) (h₂ : RoundSpecQ m v r₂) : r₁ = r₂ := by
  have hd : (0 : ℤ) < v.den := by exact_mod_cast v.den_pos
  rw [← num_div_cast_den v, ← RoundSpec_iff_Q _ _ _ _ hd] at h₁ h₂
  exact RoundSpec_unique m _ _ _ _ hd h₁ h₂

/-- Without an explicit mode the configured default mode is used. -/
theorem floordiv_default_mode (x y : ℤ) (d : Rounding) :
    floordivRounded x y none d = floordivRounded x y (some d) d :=
  floordiv_none x y d

/-- Division by zero is an error, never a value. -/
theorem floordiv_zero_divisor (x : ℤ) (m : Option Rounding) (d : Rounding) :
    floordivRounded x 0 m d = .error .ZeroDivisionError :=
  floordiv_zero x m d

/-- The result does not depend on whether the amount is held as a decimal
`v / 10^p` or as the equal fraction. -/
theorem quantize_representation_independent (v : ℤ) (p : ℕ) (quant : ℚ)
    (m : Option Rounding) (d : Rounding) (hq : quant ≠ 0) :
    decQuantize v p quant m d = quantizeFraction ((v : ℚ) / 10 ^ p) quant m d := by
  rw [quantize_decimal_eq _ _ _ _ _ hq, quantize_fraction_eq _ _ _ _ hq]

/-- The result is an integer multiple of the quantum less than one quantum
away from the amount, at most half a quantum under the half modes. -/
theorem quantize_error_bound (a quant : ℚ) (m : Rounding) (hq : quant ≠ 0) :
    let r := (roundQ m (a / quant) : ℚ) * quant
    |a - r| < |quant| ∧ (m.isHalf = true → |a - r| ≤ |quant| / 2) :=
  roundQ_grid_bound m a quant hq

/-- An amount that already is a multiple of the quantum is returned unchanged
by every mode. -/
theorem quantize_exact (k : ℤ) (quant : ℚ) (m : Rounding) (hq : quant ≠ 0) :
    (roundQ m ((k : ℚ) * quant / quant) : ℚ) * quant = k * quant :=
  roundQ_on_grid m k hq

/-- A zero quantum is rejected on both paths. -/
theorem quantize_zero_quantum (a : ℚ) (v : ℤ) (p : ℕ) (m : Option Rounding) (d : Rounding) :
    quantizeFraction a 0 m d = .error .ZeroDivisionError ∧
    decQuantize v p 0 m d = .error .ZeroDivisionError := by
  constructor
  · simp [quantizeFraction]
  · simp [decQuantize, floordiv_zero]

variable {s : QState}

/-- a quantum of another quantity type is rejected with TypeError -/
theorem quantize_other_type_rejected (d : Rounding) (a quant : Qty) (aDec : Option (Int × Nat))
    (m : Option Rounding) (h : s.reg.unitCls quant.unit ≠ s.reg.unitCls a.unit) :
    s.qtyQuantize d a aDec quant m = .error .TypeError := by
  simp [QState.qtyQuantize, h]

/-- a type without reference unit cannot be quantized: TypeError -/
theorem quantize_reference_less_rejected (d : Rounding) (a quant : Qty) (aDec : Option (Int × Nat))
    (m : Option Rounding) (hc : s.reg.unitCls quant.unit = s.reg.unitCls a.unit)
    (h : (s.reg.cls (s.reg.unitCls a.unit)).refUnit = none) :
    s.qtyQuantize d a aDec quant m = .error .TypeError := by
  simp [QState.qtyQuantize, hc, h]

/-- **quantize at the level of quantities**: for a quantity in a unit of scale
`ua` and a quantum in a unit of scale `uq` of the same type (no quantum declared
for the type), the result is — in the called quantity's unit and type — the
integer multiple of the quantum converted to that unit (`uq/ua · quant`)
selected by the requested mode, or by the default mode when none is given, on
the exact ratio; the same for an amount held as the Decimal `v/10^p` and as the
equal Fraction. -/
theorem quantize_in_own_unit (d : Rounding) (a quant : Qty) (aDec : Option (Int × Nat))
    (m : Option Rounding) {uq ua : ℚ} (h : Linear s.reg quant.unit a.unit uq ua) (hua : ua ≠ 0)
    (hnq : uq / ua * quant.amount ≠ 0) (ha : a.amount ≠ 0)
    (hdec : ∀ v p, aDec = some (v, p) → a.amount = (v : ℚ) / 10 ^ p)
    (hnoq : s.reg.unitQuantum a.unit = none) :
    s.qtyQuantize d a aDec quant m =
      .ok ⟨(roundQ (m.getD d) (a.amount / (uq / ua * quant.amount)) : ℚ) * (uq / ua * quant.amount),
           a.unit⟩ := by
  rw [qtyQuantize_linear h hua, if_neg ha]
  cases aDec with
  | none =>
    simp only [quantize_fraction_eq _ _ _ _ hnq]
    exact mkQty_no_quantum rfl hnoq
  | some vp =>
    obtain ⟨v, p⟩ := vp
    simp only [quantize_decimal_eq _ _ _ _ _ hnq, ← hdec v p rfl]
    exact mkQty_no_quantum rfl hnoq

/-- a zero amount is returned as it is -/
theorem quantize_zero_amount (d : Rounding) (a quant : Qty) (aDec : Option (Int × Nat))
    (m : Option Rounding) {uq ua : ℚ} (h : Linear s.reg quant.unit a.unit uq ua) (hua : ua ≠ 0)
    (ha : a.amount = 0) : s.qtyQuantize d a aDec quant m = .ok a := by
  rw [qtyQuantize_linear h hua, if_pos ha]

/-- **`round(q, n)`** keeps unit and type and rounds the amount to `n`
decimals: the result is a multiple of `10^-n` less than one such unit from the
amount (`n ≥ 0`; types without quantum) -/
theorem round_keeps_unit_and_rounds (d : Rounding) (a : Qty) (isDec : Bool) (n : ℕ)
    (hnoq : s.reg.unitQuantum a.unit = none) :
    ∃ k : ℤ, s.qtyRound d a isDec n = .ok ⟨(k : ℚ) / 10 ^ n, a.unit⟩ ∧
      |a.amount - (k : ℚ) / 10 ^ n| < 1 / 10 ^ n := by
  unfold QState.qtyRound roundAmount
  simp only [Int.natCast_nonneg, ↓reduceIte, Int.toNat_natCast]
  refine ⟨_, mkQty_no_quantum rfl hnoq, ?_⟩
  exact (roundQ_decimal_bound _ _ n).1

/-! Non-vacuity: concrete ties under the modes (kernel evaluation). -/
example : floordivRounded 5 2 (some .ROUND_HALF_EVEN) .ROUND_UP = .ok 2 := by decide +kernel
example : floordivRounded 7 2 (some .ROUND_HALF_EVEN) .ROUND_UP = .ok 4 := by decide +kernel
example : floordivRounded (-5) 2 (some .ROUND_HALF_UP) .ROUND_UP = .ok (-3) := by decide +kernel
example : floordivRounded (-5) 2 (some .ROUND_HALF_DOWN) .ROUND_UP = .ok (-2) := by decide +kernel
example : floordivRounded 5 (-2) none .ROUND_05UP = .ok (-2) := by decide +kernel
example : floordivRounded 11 2 none .ROUND_05UP = .ok 6 := by decide +kernel

end QM.Props.C13
