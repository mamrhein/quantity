/-
C04 — equality and ordering agree with exact reference values.
Reference value of `x` (unit scale `a`): `a * x.amount`.
-/
import QuantityModel.Proofs.Quantity
namespace QM.Props.C04
open QM.QState

variable {s : QState}

/-- `==` is equality of reference values (any non-zero scales) -/
theorem eq_iff_reference_values_equal {x y : Qty} {a b} (h : Linear s.reg y.unit x.unit b a)
    (ha : a ≠ 0) :
    s.qtyEq x y = .ok (decide (a * x.amount = b * y.amount)) := by
  rw [qtyEq_linear h ha, beq_eq_decide, div_mul_eq_mul_div]
  congr 2; rw [eq_div_iff ha, mul_comm]

/-- each of the four order operators returns what it returns on the
reference values — for *positive* scales (the hypothesis the proof forces; the
code accepts units with a negative factor, for which the statement is false:
known finding D6, witness below) -/
theorem cmp_iff_reference_values {x y : Qty} {a b} (c : Cmp) (h : Linear s.reg y.unit x.unit b a)
    (ha : 0 < a) :
    s.qtyCmp c x y = .ok (c.eval (a * x.amount) (b * y.amount)) := by
  rw [qtyCmp_linear c h ha.ne', ← Cmp.eval_mul_left c ha x.amount, ← mul_assoc, mul_div_cancel₀ _ ha.ne']

/-- consequently: trichotomy, totality and transitivity are those of ℚ -/
theorem trichotomy (ra rb : ℚ) : (ra < rb ∧ ra ≠ rb ∧ ¬ ra > rb) ∨ (¬ ra < rb ∧ ra = rb ∧ ¬ ra > rb)
    ∨ (¬ ra < rb ∧ ra ≠ rb ∧ ra > rb) := by
  rcases lt_trichotomy ra rb with h | rfl | h
  · exact .inl ⟨h, h.ne, h.asymm⟩
  · exact .inr (.inl ⟨lt_irrefl _, rfl, lt_irrefl _⟩)
  · exact .inr (.inr ⟨h.asymm, h.ne', h⟩)

/-- units of one type compare by their scale -/
theorem units_compare_by_scale {u v a b} (h : Linear s.reg u v a b) :
    s.reg.unitEq u v = some (a == b) := unitEq_linear h

/-- … and order by it: `u < v` etc. is the comparison of the scales (positive
scales; a pair from different types raises IncompatibleUnitsError) -/
theorem units_order_by_scale {u v a b} (c : Cmp) (h : Linear s.reg u v a b) (hb : 0 < b) :
    s.unitCmp c u v = .ok (c.eval a b) := by
  have : c.eval (a / b) 1 = c.eval a b := by
    rw [← Cmp.eval_mul_left c hb, mul_div_cancel₀ _ hb.ne', mul_one]
  rw [QState.unitCmp, unitFactor_linear h, ← this]

theorem units_of_different_types_do_not_compare {u v} (c : Cmp)
    (h : s.reg.unitCls u ≠ s.reg.unitCls v) :
    s.unitCmp c u v = .error .IncompatibleUnitsError := by
  rw [QState.unitCmp, unitFactor_other_class h]

/-- `x` is a quantity of the type `c` (which has a reference unit) in a unit of positive scale `a` -/
structure InType (s : QState) (c : Nat) (x : Qty) (a : ℚ) : Prop where
  cls : s.reg.unitCls x.unit = c
  hasRef : (s.reg.cls c).refUnit.isSome = true
  scale : (s.reg.unit x.unit).equiv = some a
  pos : 0 < a

theorem InType.linear {c x y a b} (hx : InType s c x a) (hy : InType s c y b) :
    Linear s.reg y.unit x.unit b a :=
  ⟨hy.cls.trans hx.cls.symm, hy.cls ▸ hy.hasRef, hy.scale, hx.scale⟩

theorem eq_is_ref_eq {c x y a b} (hx : InType s c x a) (hy : InType s c y b) :
    s.qtyEq x y = .ok (decide (a * x.amount = b * y.amount)) :=
  eq_iff_reference_values_equal (hx.linear hy) hx.pos.ne'

theorem cmp_is_ref_cmp {c x y a b} (o : Cmp) (hx : InType s c x a) (hy : InType s c y b) :
    s.qtyCmp o x y = .ok (o.eval (a * x.amount) (b * y.amount)) :=
  cmp_iff_reference_values o (hx.linear hy) hx.pos

private theorem eq_true_iff {c x y a b} (hx : InType s c x a) (hy : InType s c y b) :
    s.qtyEq x y = .ok true ↔ a * x.amount = b * y.amount := by
  rw [eq_is_ref_eq hx hy, Except.ok.injEq, decide_eq_true_eq]

private theorem le_true_iff {c x y a b} (hx : InType s c x a) (hy : InType s c y b) :
    s.qtyCmp .le x y = .ok true ↔ a * x.amount ≤ b * y.amount := by
  rw [cmp_is_ref_cmp .le hx hy, Except.ok.injEq]; exact decide_eq_true_iff

/-- **equality is an equivalence relation** on the quantities of one type -/
theorem equality_reflexive {c x a} (hx : InType s c x a) : s.qtyEq x x = .ok true :=
  (eq_true_iff hx hx).2 rfl

theorem equality_symmetric {c x y a b} (hx : InType s c x a) (hy : InType s c y b) :
    s.qtyEq x y = s.qtyEq y x := by
  rw [eq_is_ref_eq hx hy, eq_is_ref_eq hy hx, decide_eq_decide.mpr eq_comm]

theorem equality_transitive {c x y z a b d} (hx : InType s c x a) (hy : InType s c y b)
    (hz : InType s c z d) (h1 : s.qtyEq x y = .ok true) (h2 : s.qtyEq y z = .ok true) :
    s.qtyEq x z = .ok true :=
  (eq_true_iff hx hz).2 (((eq_true_iff hx hy).1 h1).trans ((eq_true_iff hy hz).1 h2))

theorem exactly_one_of_lt_eq_gt {c x y a b} (hx : InType s c x a) (hy : InType s c y b) :
    ∃ l e g : Bool, s.qtyCmp .lt x y = .ok l ∧ s.qtyEq x y = .ok e ∧ s.qtyCmp .gt x y = .ok g ∧
      ((l = true ∧ e = false ∧ g = false) ∨ (l = false ∧ e = true ∧ g = false) ∨
       (l = false ∧ e = false ∧ g = true)) := by
  refine ⟨_, _, _, cmp_is_ref_cmp .lt hx hy, eq_is_ref_eq hx hy, cmp_is_ref_cmp .gt hx hy, ?_⟩
  simp only [Cmp.eval, decide_eq_true_eq, decide_eq_false_iff_not]
  exact trichotomy _ _

/-- `<=` is a total preorder on the quantities of one type and `<` its strict
part: sorting works -/
theorem order_total {c x y a b} (hx : InType s c x a) (hy : InType s c y b) :
    s.qtyCmp .le x y = .ok true ∨ s.qtyCmp .le y x = .ok true :=
  (le_total _ _).imp (le_true_iff hx hy).2 (le_true_iff hy hx).2

theorem order_transitive {c x y z a b d} (o : Cmp) (hx : InType s c x a) (hy : InType s c y b)
    (hz : InType s c z d) (h1 : s.qtyCmp o x y = .ok true) (h2 : s.qtyCmp o y z = .ok true) :
    s.qtyCmp o x z = .ok true := by
  rw [cmp_is_ref_cmp o hx hy] at h1
  rw [cmp_is_ref_cmp o hy hz] at h2
  rw [cmp_is_ref_cmp o hx hz]
  cases o <;> simp only [Cmp.eval, Except.ok.injEq, decide_eq_true_eq] at h1 h2 ⊢
  exacts [lt_trans h1 h2, le_trans h1 h2, gt_trans h1 h2, ge_trans h1 h2]

theorem lt_is_strict_part_of_le {c x y a b} (hx : InType s c x a) (hy : InType s c y b) :
    s.qtyCmp .lt x y = .ok true ↔
      (s.qtyCmp .le x y = .ok true ∧ s.qtyCmp .le y x = .ok false) := by
  rw [cmp_is_ref_cmp .lt hx hy, cmp_is_ref_cmp .le hx hy, cmp_is_ref_cmp .le hy hx]
  simp only [Cmp.eval, Except.ok.injEq, decide_eq_true_eq, decide_eq_false_iff_not, not_le]
  exact ⟨fun h => ⟨h.le, h⟩, fun h => h.2⟩

/-- `<=` and `>=` agree with `==`: antisymmetry by value -/
theorem le_antisymmetric {c x y a b} (hx : InType s c x a) (hy : InType s c y b)
    (h1 : s.qtyCmp .le x y = .ok true) (h2 : s.qtyCmp .le y x = .ok true) :
    s.qtyEq x y = .ok true :=
  (eq_true_iff hx hy).2 (le_antisymm ((le_true_iff hx hy).1 h1) ((le_true_iff hy hx).1 h2))

/-! ### known finding D6: negative scale.  With `a = -1` the order of two
quantities in that unit is the *reverse* of the order of their reference
values; the code compares amounts (`1 < 2`) although `-1 > -2`. -/
theorem cmp_FALSE_for_negative_scale :
    ¬ (∀ (a x y : ℚ), a ≠ 0 → (decide (x < y) = decide (a * x < a * y))) := by
  intro h
  have := h (-1) 1 2 (by norm_num)
  norm_num at this

end QM.Props.C04
