/-
Directory invariants that hold in EVERY state reachable by declarations
(valid or rejected, in any order): they discharge the hypotheses
`TermMapSound` of C02 / C10 / C17 and give C15's coherence statements their
"after any sequence of declarations" quantifier.
-/
import QuantityModel.Proofs.UnitOps
import QuantityModel.Model.Catalogue
namespace QM

/-- what the directories guarantee about each other -/
structure DirInv (s : RegState) : Prop where
  /-- term → unit map: entries name existing units and are keyed by the
  unit's own normalised definition -/
  termMap : ∀ key w, (key, w) ∈ s.termMap → w < s.units.length ∧ (s.unit w).normDef = key
  /-- symbol → unit map: entries name existing units carrying that symbol -/
  symMap : ∀ sym u, (sym, u) ∈ s.symMap → u < s.units.length ∧ (s.unit u).symbol = sym
  /-- symbols are unique -/
  symNodup : (s.symMap.map Prod.fst).Nodup
  /-- every unit is found under its symbol -/
  symTotal : ∀ u, u < s.units.length → ((s.unit u).symbol, u) ∈ s.symMap
  /-- a type lists only units created for it -/
  unitLists : ∀ c u, u ∈ (s.cls c).units → u < s.units.length ∧ (s.unit u).cls = c

theorem DirInv.termMapSound {s : RegState} (h : DirInv s) : TermMapSound s :=
  fun key w hm => (h.termMap key w hm).2

theorem dirInv_init : DirInv RegState.init := by
  refine ⟨nofun, nofun, List.nodup_nil, fun u h => absurd h (Nat.not_lt_zero u), fun c u h => ?_⟩
  rw [(init_cls c).1] at h; cases h

theorem DirInv.transfer {s s' : RegState} (hI : DirInv s) (h : Same s s') : DirInv s' := by
  refine ⟨?_, ?_, ?_, ?_, ?_⟩
  · simp only [h.termMap, h.len, h.normDef]; exact hI.termMap
  · simp only [h.symMap, h.len, h.symbol]; exact hI.symMap
  · rw [h.symMap]; exact hI.symNodup
  · simp only [h.symMap, h.len, h.symbol]; exact hI.symTotal
  · simp only [h.lists, h.len, h.ucls]; exact hI.unitLists

/-- `_make_unit` preserves the directory invariants -/
theorem dirInv_makeUnit {s s' : RegState} {c : Nat} {sym : String} {defn : Option Items}
    {isRef : Bool} {uid : Nat} (h : s.makeUnit c sym defn isRef = .ok (s', uid)) (hI : DirInv s) :
    DirInv s' := by
  have m := makeUnit_effect h
  obtain ⟨hnodup, hsym⟩ := m.symbols hI.symNodup hI.symMap
  refine ⟨?_, hsym, hnodup, ?_, ?_⟩
  · intro key w hm
    have : (key, w) ∈ s.termMap ∨ (key, w) = ((s'.unit uid).normDef, uid) := by
      rcases m.termMap with htm | htm <;> rw [htm] at hm
      · exact .inl hm
      · simpa using hm
    rcases this with hm | hm
    · exact m.keep (p := fun x => x.normDef = key) (hI.termMap key w hm)
    · cases hm; exact ⟨m.lt, rfl⟩
  · intro u hu
    rw [m.symMap, List.mem_append]
    rcases m.cases_lt hu with hlt | rfl
    · left; rw [m.old u hlt]; exact hI.symTotal u hlt
    · right; simp [m.symbol]
  · intro c' u hu
    rcases m.lists hu with h1 | ⟨rfl, rfl⟩
    · exact m.keep (p := fun x => x.cls = c') (hI.unitLists c' u h1)
    · exact ⟨m.lt, m.cls⟩

theorem DirInv.setRefUnit {s : RegState} (hI : DirInv s) (cid uid : Nat) (m : List (Items × Nat)) :
    DirInv { s with classes := s.classes.modify cid fun c => { c with refUnit := some uid },
                    clsMap := m } :=
  ⟨hI.termMap, hI.symMap, hI.symNodup, hI.symTotal,
    fun c u hu => hI.unitLists c u (cls_setRefUnit_units s cid uid m c ▸ hu)⟩

theorem dirInv_of_cache {s : RegState} (c : List ((UOp × Nat × Nat) × (ℚ × Option Nat)))
    (h : DirInv s) : DirInv { s with opCache := c } :=
  ⟨h.termMap, h.symMap, h.symNodup, h.symTotal, h.unitLists⟩

theorem dirInv_newUnit (s : RegState) (c : Nat) (sym : Option String) (d : UnitDefArg)
    (hI : DirInv s) : DirInv (s.newUnit c sym d).1 :=
  newUnit_cases (P := fun r => DirInv r.1) s c sym d
    (rejected := fun _ => hI) (made := fun _ _ _ _ _ _ h => dirInv_makeUnit h hI)

theorem dirInv_deriveUnit (s : RegState) (c : Nat) (args : List Nat) (sym : Option String)
    (hI : DirInv s) : DirInv (s.deriveUnit c args sym).1 :=
  deriveUnit_cases (P := fun r => DirInv r.1) s c args sym
    (rejected := fun _ => hI) (made := fun _ _ _ _ _ h => dirInv_makeUnit h hI)

theorem dirInv_declClass (s : RegState) (d : ClassDecl) (hI : DirInv s) :
    DirInv (s.declClass d).1 :=
  declClass_cases (P := fun r => DirInv r.1) s d
    (rejected := fun _ => hI) (plain := fun _ => hI.transfer)
    (withRef := fun _ _ _ _ _ uid h1 _ _ _ h =>
      (dirInv_makeUnit h (hI.transfer h1)).setRefUnit _ uid _)

theorem dirInv_newCurrency (s : RegState) (mc : Nat) (sym : Option String) (mi : MinorArg)
    (sf : SfArg) (hI : DirInv s) : DirInv (s.newCurrency mc sym mi sf).1 :=
  newCurrency_cases (P := fun r => DirInv r.1) s mc sym mi sf
    (rejected := fun _ => hI)
    (made := fun _ frac s' uid _ _ h => (dirInv_makeUnit h hI).transfer (.setFraction s' uid frac))

/-- every way a declaration can change the registry -/
inductive Decl where
  | cls (d : ClassDecl)
  | newUnit (c : Nat) (sym : Option String) (d : UnitDefArg)
  | derive (c : Nat) (args : List Nat) (sym : Option String)
  | currency (mc : Nat) (sym : Option String) (mi : MinorArg) (sf : SfArg)

def RegState.applyDecl (s : RegState) : Decl → RegState
  | .cls d => (s.declClass d).1
  | .newUnit c sym d => (s.newUnit c sym d).1
  | .derive c args sym => (s.deriveUnit c args sym).1
  | .currency mc sym mi sf => (s.newCurrency mc sym mi sf).1

/-- states reachable from `import quantity` by any sequence of declarations,
valid or rejected -/
inductive Reachable : RegState → Prop where
  | init : Reachable RegState.init
  | step (s : RegState) (d : Decl) : Reachable s → Reachable (s.applyDecl d)

theorem dirInv_applyDecl (s : RegState) (d : Decl) (h : DirInv s) : DirInv (s.applyDecl d) := by
  cases d with
  | cls d => exact dirInv_declClass s d h
  | newUnit c sym d => exact dirInv_newUnit s c sym d h
  | derive c args sym => exact dirInv_deriveUnit s c args sym h
  | currency mc sym mi sf => exact dirInv_newCurrency s mc sym mi sf h

theorem reachable_dirInv {s : RegState} (h : Reachable s) : DirInv s := by
  induction h with
  | init => exact dirInv_init
  | step s d _ ih => exact dirInv_applyDecl s d ih

theorem applyCatStep_fst (acc : RegState × Nat) (st : CatStep) :
    (applyCatStep acc st).1 = acc.1 ∨ ∃ d, (applyCatStep acc st).1 = acc.1.applyDecl d := by
  unfold applyCatStep
  extract_lets s r
  suffices h : r.1 = acc.1 ∨ ∃ d, r.1 = acc.1.applyDecl d by split <;> exact h
  cases st with
  | cls name defn refSym refName quantum => exact .inr ⟨.cls _, rfl⟩
  | unitQty c sym a u =>
    simp only [r]
    split
    · exact .inr ⟨.newUnit .., rfl⟩
    · exact .inl rfl
  | unitTerm c sym items => exact .inr ⟨.newUnit .., rfl⟩
  | unitNone c sym => exact .inr ⟨.newUnit .., rfl⟩
  | derive c args sym => exact .inr ⟨.derive .., rfl⟩

theorem runCatalogue_reachable (steps : List CatStep) : Reachable (runCatalogue steps).1 := by
  unfold runCatalogue
  suffices ∀ acc : RegState × Nat, Reachable acc.1 → Reachable (steps.foldl applyCatStep acc).1 from
    this _ .init
  induction steps with
  | nil => exact fun _ h => h
  | cons st rest ih =>
    intro acc h
    refine ih _ ?_
    rcases applyCatStep_fst acc st with e | ⟨d, e⟩ <;> rw [e]
    · exact h
    · exact .step _ d h

end QM
