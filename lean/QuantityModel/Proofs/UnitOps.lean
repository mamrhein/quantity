/-
Soundness of unit resolution (`_amnt_and_unit_from_term`) and of unit
arithmetic with the operation cache, under the directory invariant
"every entry of the term → unit map is keyed by that unit's normalised
definition".  Values are taken under any admissible valuation `ν` of the units
(C07): `ν` of a unit is what its normalised definition denotes.
-/
import QuantityModel.Proofs.Registry
import Mathlib.Tactic.FieldSimp
namespace QM

/-- every directory entry is keyed by the entry's own normalised definition -/
def TermMapSound (s : RegState) : Prop :=
  ∀ key w, (key, w) ∈ s.termMap → (s.unit w).normDef = key

/-- the valuation gives every unit the value of its normalised definition -/
def ValuesDefs (s : RegState) (ν : Nat → ℚ) : Prop :=
  ∀ u, ν u = den ν (s.unit u).normDef

structure Admissible (s : RegState) (ν : Nat → ℚ) : Prop where
  nz : NonZero ν
  resp : Respects s.unitEnv ν
  defs : RespectsDefs s.unitEnv ν
  vals : ValuesDefs s ν

/-- value of an optional unit (`None` = dimensionless 1) -/
def optVal (ν : Nat → ℚ) : Option Nat → ℚ
  | some w => ν w
  | none => 1

theorem unitFromTerm_sound (s : RegState) (ν) (hA : Admissible s ν) (hT : TermMapSound s)
    (t : Items) (w : Nat) (h : s.unitFromTerm t = some w) : ν w = den ν t := by
  unfold RegState.unitFromTerm at h
  have hm := lookup_mem _ _ _ h
  rw [hA.vals w, hT _ _ hm, den_termNormalized _ ν hA.nz hA.resp hA.defs]

/-- how a unit term is resolved: found in the directory; a plain number; a
number times a unit found in the directory; or not at all, when the term is
not in the directory and what remains of it without its numeric factor is
either the term again or not in the directory -/
theorem amntAndUnit_cases {P : Option (ℚ × Option Nat) → Prop} (s : RegState) (t : Items)
    (direct : ∀ u, s.unitFromTerm t = some u → P (some (1, some u)))
    (number : (splitTerm s.unitEnv (termNormalized s.unitEnv t)).2 = [] →
      P (some ((splitTerm s.unitEnv (termNormalized s.unitEnv t)).1, none)))
    (scaled : ∀ u, s.unitFromTerm (splitTerm s.unitEnv (termNormalized s.unitEnv t)).2 = some u →
      P (some ((splitTerm s.unitEnv (termNormalized s.unitEnv t)).1, some u)))
    (failed : s.unitFromTerm t = none →
      (termEq s.unitEnv (splitTerm s.unitEnv (termNormalized s.unitEnv t)).2 t = true ∨
        s.unitFromTerm (splitTerm s.unitEnv (termNormalized s.unitEnv t)).2 = none) → P none) :
    P (s.amntAndUnit t) := by
  unfold RegState.amntAndUnit
  split
  · exact direct _ ‹_›
  · simp only
    split
    · exact number (List.isEmpty_iff.mp ‹_›)
    · split
      · split
        · exact scaled _ ‹_›
        · exact failed ‹_› (.inr ‹_›)
      · rename_i h; exact failed ‹_› (.inl (by simpa using h))

theorem amntAndUnit_sound (s : RegState) (ν) (hA : Admissible s ν) (hT : TermMapSound s)
    (t : Items) (f : ℚ) (w : Option Nat) (h : s.amntAndUnit t = some (f, w)) :
    f * optVal ν w = den ν t := by
  have hsplit := Props_split s ν hA t
  refine amntAndUnit_cases (P := fun r => r = some (f, w) → _) s t
    (direct := fun u hu h => ?_) (number := fun he h => ?_) (scaled := fun u hu h => ?_)
    (failed := fun _ _ h => nomatch h) h <;> cases h
  · simp [optVal, unitFromTerm_sound s ν hA hT t u hu]
  · rw [he] at hsplit; simpa [optVal] using hsplit
  · rw [optVal, unitFromTerm_sound s ν hA hT _ u hu]; exact hsplit
where
  Props_split (s : RegState) (ν) (hA : Admissible s ν) (t : Items) :
      (splitTerm s.unitEnv (termNormalized s.unitEnv t)).1 *
        den ν (splitTerm s.unitEnv (termNormalized s.unitEnv t)).2 = den ν t := by
    rw [den_splitTerm _ ν hA.nz hA.resp, den_termNormalized _ ν hA.nz hA.resp hA.defs]

/-- every cached result has the value of the operation it stands for -/
def CacheSound (s : RegState) (ν : Nat → ℚ) : Prop :=
  ∀ op u v f w, ((op, u, v), (f, w)) ∈ s.opCache →
    f * optVal ν w = (match op with | .mul => ν u * ν v | .div => ν u / ν v)

theorem den_mkTerm_pair (s : RegState) (ν) (hA : Admissible s ν) (u v : Nat) (e : ℤ) :
    den ν (mkTerm s.unitEnv [(.atom u, 1), (.atom v, e)]) = ν u * ν v ^ e := by
  rw [den_mkTerm _ ν hA.nz hA.resp]; simp [evalElem]

/-- the value of `u * v` or `u / v` (what `CacheSound` asks of an entry) -/
def opVal (ν : Nat → ℚ) (op : UOp) (u v : Nat) : ℚ :=
  match op with | .mul => ν u * ν v | .div => ν u / ν v

def QState.unitOp (s : QState) : UOp → Nat → Nat → QState × Except Err (ℚ × Option Nat)
  | .mul, u, v => s.mulUnits u v
  | .div, u, v => s.divUnits u v

theorem unitOp_mul (s : QState) (u v : Nat) : s.unitOp .mul u v = s.mulUnits u v := rfl
theorem unitOp_div (s : QState) (u v : Nat) : s.unitOp .div u v = s.divUnits u v := rfl

/-- the ways a result of `u op v` is computed when the cache has no entry -/
inductive Fresh (s : QState) : UOp → Nat → Nat → ℚ × Option Nat → Prop
  | product {u v r} :
      s.reg.amntAndUnit (mkTerm s.reg.unitEnv [(.atom u, 1), (.atom v, 1)]) = some r →
      Fresh s .mul u v r
  | same {u} : Fresh s .div u u (1, none)
  | ratio {u v a b} : s.reg.unitCls u = s.reg.unitCls v →
      (s.reg.unit u).equiv = some a → (s.reg.unit v).equiv = some b → Fresh s .div u v (a / b, none)
  | quotient {u v r} :
      s.reg.amntAndUnit (mkTerm s.reg.unitEnv [(.atom u, 1), (.atom v, -1)]) = some r →
      Fresh s .div u v r

/-- a cache hit returns the stored result; otherwise the result is computed: a
failure leaves the state alone, a success is stored -/
theorem unitOp_cases {P : QState × Except Err (ℚ × Option Nat) → Prop} (s : QState) (op : UOp)
    (u v : Nat)
    (hit : ∀ r, s.reg.opCache.lookup (op, u, v) = some r → P (s, .ok r))
    (failed : ∀ e, P (s, .error e))
    (fresh : ∀ r, s.reg.opCache.lookup (op, u, v) = none → Fresh s op u v r →
      P ({ s with reg := { s.reg with opCache := s.reg.opCache ++ [((op, u, v), r)] } }, .ok r)) :
    P (s.unitOp op u v) := by
  cases op with
  | mul =>
    rw [unitOp_mul]
    unfold QState.mulUnits
    split
    · exact hit _ ‹_›
    · simp only; split
      · exact failed _
      · exact fresh _ ‹_› (.product ‹_›)
  | div =>
    rw [unitOp_div]
    unfold QState.divUnits
    split
    · exact hit _ ‹_›
    simp only
    split
    · exact failed _
    rename_i r hr
    refine fresh r ‹_› ?_
    split at hr
    · rename_i hc
      split at hr
      · rename_i huv
        cases hr; cases beq_iff_eq.mp huv; exact .same
      · split at hr <;> cases hr
        exact .ratio (by simpa using hc) ‹_› ‹_›
    · split at hr <;> cases hr
      exact .quotient ‹_›

theorem unitOp_hit (s : QState) (op : UOp) (u v : Nat) (r : ℚ × Option Nat)
    (h : s.reg.opCache.lookup (op, u, v) = some r) : s.unitOp op u v = (s, .ok r) := by
  cases op
  · rw [unitOp_mul]; unfold QState.mulUnits; rw [h]
  · rw [unitOp_div]; unfold QState.divUnits; rw [h]

theorem unitOp_repeat (s : QState) (op : UOp) (u v : Nat) (r : ℚ × Option Nat)
    (h : (s.unitOp op u v).2 = .ok r) :
    (s.unitOp op u v).1.unitOp op u v = ((s.unitOp op u v).1, .ok r) := by
  refine unitOp_cases (P := fun x => x.2 = .ok r → x.1.unitOp op u v = (x.1, .ok r)) s op u v
    (hit := fun r' hl h => ?_) (failed := fun e h => nomatch h) (fresh := fun r' hl _ h => ?_) h
  · cases h; exact unitOp_hit s op u v r hl
  · cases h; exact unitOp_hit _ op u v r (by simp [List.lookup_append, hl])

theorem unitOp_error (s : QState) (op : UOp) (u v : Nat) (e : Err)
    (h : (s.unitOp op u v).2 = .error e) : (s.unitOp op u v).1 = s :=
  unitOp_cases (P := fun r => r.2 = .error e → r.1 = s) s op u v
    (hit := fun _ _ h => nomatch h) (failed := fun _ _ => rfl) (fresh := fun _ _ _ h => nomatch h) h

/-- `href`: the code divides the scales of two units of one class without asking whether the
class has a reference unit, and an admissible valuation relates the values of two units
(`Respects`) only when it has one. -/
theorem Fresh.sound {s : QState} {ν} (hA : Admissible s.reg ν) (hT : TermMapSound s.reg)
    {op : UOp} {u v : Nat} {f : ℚ} {w : Option Nat} (h : Fresh s op u v (f, w))
    (href : op = .div → s.reg.unitCls u = s.reg.unitCls v →
      (s.reg.cls (s.reg.unitCls u)).refUnit.isSome = true) :
    f * optVal ν w = opVal ν op u v := by
  cases h with
  | product hr =>
    have hs := amntAndUnit_sound s.reg ν hA hT _ f w hr
    rwa [den_mkTerm_pair s.reg ν hA u v 1, zpow_one] at hs
  | same => simp [optVal, opVal, div_self (hA.nz u)]
  | quotient hr =>
    have hs := amntAndUnit_sound s.reg ν hA hT _ f w hr
    rw [den_mkTerm_pair s.reg ν hA u v (-1), zpow_neg, zpow_one] at hs
    rw [hs, opVal, div_eq_mul_inv]
  | @ratio _ _ a b hc ha hb =>
    have := hA.resp u v _ ((getFactor_unitEnv s.reg u v _).mpr ⟨hc, href rfl hc, a, b, ha, hb, rfl⟩)
    simp only [optVal, opVal, mul_one]
    rw [this]; field_simp [hA.nz v]

theorem CacheSound.of_empty {s : RegState} {ν : Nat → ℚ} (h : s.opCache = []) : CacheSound s ν :=
  fun _ _ _ _ _ hm => by simp [h] at hm

theorem CacheSound.store {s : RegState} {ν} (hC : CacheSound s ν) {op : UOp} {u v : Nat} {f : ℚ}
    {w : Option Nat}
    (h : f * optVal ν w = opVal ν op u v) :
    CacheSound { s with opCache := s.opCache ++ [((op, u, v), (f, w))] } ν := by
  intro op' u' v' f' w' hmem
  simp only [List.mem_append, List.mem_singleton, Prod.mk.injEq] at hmem
  rcases hmem with hmem | ⟨⟨rfl, rfl, rfl⟩, rfl, rfl⟩
  · exact hC op' u' v' f' w' hmem
  · exact h

theorem unitOp_sound (s : QState) (ν) (hA : Admissible s.reg ν) (hT : TermMapSound s.reg)
    (hC : CacheSound s.reg ν) (op : UOp) (u v : Nat)
    (href : op = .div → s.reg.unitCls u = s.reg.unitCls v →
      (s.reg.cls (s.reg.unitCls u)).refUnit.isSome = true) :
    (∀ f w, (s.unitOp op u v).2 = .ok (f, w) →
      f * optVal ν w = opVal ν op u v) ∧
    CacheSound (s.unitOp op u v).1.reg ν := by
  refine unitOp_cases (P := fun r => (∀ f w, r.2 = .ok (f, w) → f * optVal ν w = opVal ν op u v) ∧
    CacheSound r.1.reg ν) s op u v
    (hit := fun r hr => ⟨fun f w h => ?_, hC⟩) (failed := fun e => ⟨fun f w h => (nomatch h), hC⟩)
    (fresh := fun r _ hr => ⟨fun f w h => ?_, ?_⟩)
  · cases h; exact hC op u v f w (lookup_mem _ _ _ hr)
  · cases h; exact hr.sound hA hT href
  · exact hC.store (hr.sound hA hT href)

/-- `Unit * Unit`: the result (fresh or cached) has the value of the product,
and the cache stays sound -/
theorem mulUnits_sound (s : QState) (ν) (hA : Admissible s.reg ν) (hT : TermMapSound s.reg)
    (hC : CacheSound s.reg ν) (u v : Nat) :
    (∀ f w, (s.mulUnits u v).2 = .ok (f, w) → f * optVal ν w = ν u * ν v) ∧
    CacheSound (s.mulUnits u v).1.reg ν :=
  unitOp_sound s ν hA hT hC .mul u v fun h => nomatch h

/-- `Unit / Unit` (different classes, or one class with a reference unit) -/
theorem divUnits_sound (s : QState) (ν) (hA : Admissible s.reg ν) (hT : TermMapSound s.reg)
    (hC : CacheSound s.reg ν) (u v : Nat)
    (href : s.reg.unitCls u = s.reg.unitCls v → (s.reg.cls (s.reg.unitCls u)).refUnit.isSome = true) :
    (∀ f w, (s.divUnits u v).2 = .ok (f, w) → f * optVal ν w = ν u / ν v) ∧
    CacheSound (s.divUnits u v).1.reg ν :=
  unitOp_sound s ν hA hT hC .div u v fun _ => href

end QM
