/-
Canonical form of reduced / normalised terms.

`reduceGeneral … false` (the general path of `_reduce_items` with
`keep_item_order=False`, which is what `Term.normalized()` ends with) returns
at most one numeric item (first, exponent 1, ≠ 1) followed by non-numeric
items that are sorted by sort key, carry non-zero exponents, and of which no
later one could have been merged into an earlier one of the same key
(`AtomsNF`; `reduceGeneral_shape`, by the invariant `StInv` of the sequential
pass).  Feeding such a list to the reduction again, in either
`keep_item_order` mode, returns it unchanged (`reduceGeneral_fixed`): nothing
can be merged, so the pass copies its input (`foldl_reproduces`).
-/
import QuantityModel.Proofs.TermShape
import QuantityModel.Proofs.TermKeep
import Mathlib.Data.List.Induction
namespace QM

def keyOf (env : Env) (a : Nat) : Int := (env.info a).key

/-- `q` comes after `p` in a reduced list: keys ascend, and within one key the
later element is neither the same as nor convertible into the earlier one -/
def RNF (env : Env) (p q : Nat × Int) : Prop :=
  keyOf env p.1 ≤ keyOf env q.1 ∧
    (keyOf env p.1 = keyOf env q.1 → p.1 ≠ q.1 ∧ getFactor env q.1 p.1 = none)

/-- the non-numeric part of a reduced item list -/
def AtomsNF (env : Env) (l : List (Nat × Int)) : Prop :=
  l.Pairwise (RNF env) ∧ ∀ p ∈ l, p.2 ≠ 0

/-- `RNF` only looks at the elements, so it survives `mergeInto` changing an exponent -/
def RA (env : Env) (a b : Nat) : Prop :=
  keyOf env a ≤ keyOf env b ∧ (keyOf env a = keyOf env b → a ≠ b ∧ getFactor env b a = none)

theorem pairwise_RNF_iff (env : Env) (l : List (Nat × Int)) :
    l.Pairwise (RNF env) ↔ (l.map Prod.fst).Pairwise (RA env) := by
  rw [List.pairwise_map]; rfl

theorem nodup_fst_of_RNF (env : Env) (l : List (Nat × Int)) (h : l.Pairwise (RNF env)) :
    (l.map Prod.fst).Nodup :=
  ((pairwise_RNF_iff env l).mp h).imp fun hab heq => (hab.2 (by rw [heq])).1 heq

theorem atomsOf_numPrefix_append (q : Rat) (l : List (Nat × Int)) :
    atomsOf (numPrefix q ++ atomItems l) = l.map Prod.fst := by
  rw [atomsOf_append, atomsOf_atomItems]; unfold numPrefix; split <;> simp [atomsOf]

theorem mergeInto_append (env : Env) (a₂ : Nat) (e₂ : Int) (acc : List (Nat × Int))
    (h : ∀ p ∈ acc, p.1 ≠ a₂ ∧ getFactor env a₂ p.1 = none) :
    mergeInto env a₂ e₂ acc = (acc ++ [(a₂, e₂)], 1) := by
  induction acc with
  | nil => rfl
  | cons p rest ih =>
    obtain ⟨a₁, e₁⟩ := p
    have hp := h (a₁, e₁) (by simp)
    have ih' := ih (fun p hp => h p (by simp [hp]))
    simp only [mergeInto, if_neg hp.1, hp.2, ih', List.cons_append]

/-- what `mergeInto` does to the list of elements: either nothing (merged into
an existing entry) or the new element is appended, and then no existing entry
could take it -/
theorem mergeInto_fst (env : Env) (a₂ : Nat) (e₂ : Int) (acc : List (Nat × Int)) :
    ((mergeInto env a₂ e₂ acc).1.map Prod.fst = acc.map Prod.fst) ∨
    ((mergeInto env a₂ e₂ acc).1.map Prod.fst = acc.map Prod.fst ++ [a₂] ∧
      ∀ b ∈ acc.map Prod.fst, b ≠ a₂ ∧ getFactor env a₂ b = none) := by
  induction acc with
  | nil => right; simp [mergeInto]
  | cons p rest ih =>
    obtain ⟨a₁, e₁⟩ := p
    unfold mergeInto
    by_cases h : a₁ = a₂
    · left; simp [h]
    · simp only [if_neg h]
      cases hf : getFactor env a₂ a₁ with
      | some conv => left; simp
      | none =>
        rcases ih with ih | ⟨ih, ihall⟩
        · left; simp [ih]
        · exact .inr ⟨by simp [ih], List.forall_mem_cons.mpr ⟨⟨h, hf⟩, ihall⟩⟩

def NoMerge (env : Env) (x y : Item) : Prop :=
  ∀ a b, x.1 = .atom a → y.1 = .atom b → a ≠ b ∧ getFactor env b a = none

/-- By induction from the right: the open group consists of items of the list
that carry the current key (third conjunct), so the next item cannot be merged
into it. -/
theorem foldl_reproduces (env : Env) (n : ℚ) (d : List (Nat × Int)) (k : Int)
    (X : List (Int × Item)) (hpw : X.Pairwise fun x y => x.1 = y.1 → NoMerge env x.2 y.2)
    (hat : ∀ x ∈ X, ∃ a, x.2.1 = Elem.atom a ∧ x.2.2 ≠ 0) :
    (X.foldl (reduceStep env) ⟨n, d, k, []⟩).num = n ∧
    atomItems (closeGroup (X.foldl (reduceStep env) ⟨n, d, k, []⟩)) = atomItems d ++ X.map Prod.snd ∧
    ∀ p ∈ (X.foldl (reduceStep env) ⟨n, d, k, []⟩).cur,
      ((X.foldl (reduceStep env) ⟨n, d, k, []⟩).curKey, (Elem.atom p.1, p.2)) ∈ X := by
  induction X using List.reverseRecOn with
  | nil => simp [closeGroup]
  | append_singleton X x ih =>
    obtain ⟨hX, hx⟩ := List.pairwise_append.mp hpw |>.imp_right (·.2)
    obtain ⟨hn, hc, hcur⟩ := ih hX fun y hy => hat y (List.mem_append_left _ hy)
    obtain ⟨kx, el, e⟩ := x
    obtain ⟨a, rfl, he⟩ : ∃ a, el = Elem.atom a ∧ e ≠ 0 := hat (kx, el, e) (by simp)
    rw [List.foldl_append, List.foldl_cons, List.foldl_nil]
    generalize X.foldl (reduceStep env) ⟨n, d, k, []⟩ = s at *
    have he' : (e != 0) = true := by simpa using he
    by_cases hk : kx = s.curKey
    · have hm : mergeInto env a e s.cur = (s.cur ++ [(a, e)], 1) :=
        mergeInto_append env a e s.cur fun p hp =>
          hx _ (hcur p hp) _ (List.mem_singleton_self _) hk.symm p.1 a rfl rfl
      simp only [reduceStep, hk, if_true, hm, mul_one, hn, true_and]
      refine ⟨?_, fun p hp => ?_⟩
      · simp only [closeGroup, atomItems, List.map_append, List.filter_append] at hc ⊢
        simp [← List.append_assoc, hc, he']
      · rcases List.mem_append.mp hp with hp | hp
        · exact List.mem_append_left _ (hcur p hp)
        · simp at hp; simp [hp]
    · simp only [reduceStep, hk, if_false, hn, true_and]
      refine ⟨?_, fun p hp => ?_⟩
      · simp only [closeGroup, atomItems, List.map_append] at hc ⊢
        simp [hc, he']
      · simp at hp; simp [hp]

/-- Invariant of the pass over items in ascending order of their sort keys: the
finished groups have keys below that of the open group, so an element can only
ever meet the open group, and `mergeInto` appends it there only if no element
of the group is the same or convertible. -/
structure StInv (env : Env) (s : RState) : Prop where
  pw : (s.done.map Prod.fst ++ s.cur.map Prod.fst).Pairwise (RA env)
  curk : ∀ b ∈ s.cur.map Prod.fst, keyOf env b = s.curKey
  donek : ∀ b ∈ s.done.map Prod.fst, keyOf env b < s.curKey
  done0 : ∀ p ∈ s.done, p.2 ≠ 0

theorem RA.of_lt {env : Env} {a b : Nat} (h : keyOf env a < keyOf env b) : RA env a b :=
  ⟨h.le, fun e => absurd e h.ne⟩

theorem closeGroup_sublist (s : RState) :
    ((closeGroup s).map Prod.fst).Sublist (s.done.map Prod.fst ++ s.cur.map Prod.fst) := by
  rw [← List.map_append]
  exact ((List.Sublist.refl s.done).append List.filter_sublist).map _

theorem closeGroup_ne_zero (s : RState) (h : ∀ p ∈ s.done, p.2 ≠ 0) : ∀ p ∈ closeGroup s, p.2 ≠ 0 :=
  List.forall_mem_append.mpr ⟨h, fun p hp => by simpa using (List.mem_filter.mp hp).2⟩

theorem stInv_step_atom (env : Env) (s : RState) (a : Nat) (e : Int)
    (h : StInv env s) (hle : s.curKey ≤ keyOf env a) :
    StInv env (reduceStep env s (keyOf env a, (Elem.atom a, e))) := by
  by_cases hk : keyOf env a = s.curKey
  · simp only [reduceStep, hk, if_true]
    rcases mergeInto_fst env a e s.cur with hf | ⟨hf, hall⟩
    · exact ⟨hf ▸ h.pw, hf ▸ h.curk, h.donek, h.done0⟩
    · refine ⟨?_, ?_, h.donek, h.done0⟩
      · rw [hf, ← List.append_assoc]
        refine List.pairwise_append.mpr ⟨h.pw, List.pairwise_singleton _ _, fun b hb c hc => ?_⟩
        obtain rfl := List.mem_singleton.mp hc
        rcases List.mem_append.mp hb with hb | hb
        · exact .of_lt (hk ▸ h.donek b hb)
        · exact ⟨((h.curk b hb).trans hk.symm).le, fun _ => hall b hb⟩
      · rw [hf]; exact List.forall_mem_append.mpr ⟨h.curk, by simpa using hk⟩
  · simp only [reduceStep, hk, if_false]
    have hlt : s.curKey < keyOf env a := lt_of_le_of_ne hle (Ne.symm hk)
    have hkeys : ∀ b ∈ (closeGroup s).map Prod.fst, keyOf env b < keyOf env a := fun b hb => by
      rcases List.mem_append.mp ((closeGroup_sublist s).subset hb) with hb | hb
      · exact (h.donek b hb).trans hlt
      · exact (h.curk b hb).trans_lt hlt
    refine ⟨?_, by simp, hkeys, closeGroup_ne_zero s h.done0⟩
    refine List.pairwise_append.mpr ⟨h.pw.sublist (closeGroup_sublist s), List.pairwise_singleton _ _,
      fun b hb c hc => ?_⟩
    obtain rfl : c = a := by simpa using hc
    exact .of_lt (hkeys b hb)

theorem reduceStep_atom_curKey (env : Env) (s : RState) (k : Int) (a : Nat) (e : Int) :
    (reduceStep env s (k, (Elem.atom a, e))).curKey = k := by
  simp only [reduceStep]
  split
  · exact Eq.symm ‹_›
  · rfl

theorem stInv_foldl (env : Env) (l : List (Int × Item)) (s : RState) (h : StInv env s)
    (hw : ∀ x ∈ l, x.1 = sortKey env x.2.1) (hs : l.Pairwise (fun x y => x.1 ≤ y.1))
    (hle : ∀ x ∈ l, ∀ a e, x.2 = (Elem.atom a, e) → s.curKey ≤ x.1) :
    StInv env (l.foldl (reduceStep env) s) := by
  induction l generalizing s with
  | nil => exact h
  | cons x r ih =>
    obtain ⟨k, el, e⟩ := x
    rw [List.pairwise_cons] at hs
    rw [List.forall_mem_cons] at hw hle
    cases el with
    | num q => exact ih _ ⟨h.pw, h.curk, h.donek, h.done0⟩ hw.2 hs.2 hle.2
    | atom a =>
      obtain rfl : k = keyOf env a := hw.1
      refine ih _ (stInv_step_atom env s a e h (hle.1 a e rfl)) hw.2 hs.2 fun y hy _ _ _ => ?_
      rw [reduceStep_atom_curKey]; exact hs.1 y hy

/-- sort keys of elements are not negative (the code reserves -1 for numbers;
an element's key is the registration id of its type) -/
def KeysNonneg (env : Env) : Prop := ∀ a, 0 ≤ keyOf env a

theorem reduceGeneral_shape (env : Env) (hk : KeysNonneg env) (items : Items) :
    ∃ q l, reduceGeneral env items false = numPrefix q ++ atomItems l ∧ AtomsNF env l ∧
      ∀ p ∈ l, p.1 ∈ atomsOf items := by
  have hmem : ∀ x ∈ sortKeyed (attachKeys env items false), x.1 = sortKey env x.2.1 := fun x hx => by
    have := (sortKeyed_perm _).mem_iff.mp hx
    rw [attachKeys, if_neg Bool.false_ne_true] at this
    obtain ⟨it, _, rfl⟩ := List.mem_map.mp this
    rfl
  have hinv : StInv env (pass env items false) :=
    stInv_foldl env _ _ ⟨by simp, by simp, by simp, by simp⟩ hmem (sortKeyed_sorted _)
      fun x hx a e hxa => by rw [hmem x hx, hxa]; exact hk a
  refine ⟨_, _, reduceGeneral_eq env items false, ⟨(pairwise_RNF_iff ..).mpr
    (hinv.pw.sublist (closeGroup_sublist _)), closeGroup_ne_zero _ hinv.done0⟩, fun p hp => ?_⟩
  refine reduceGeneral_atoms env items false p.1 ?_
  rw [reduceGeneral_eq, atomsOf_numPrefix_append]
  exact List.mem_map_of_mem hp

theorem pass_atomsNF (env : Env) (l : List (Nat × Int)) (hl : AtomsNF env l) (n : ℚ)
    (X : List (Int × Item)) (hX : X.map Prod.snd = atomItems l) (hK : X.Pairwise (KOut env)) :
    (X.foldl (reduceStep env) ⟨n, [], 0, []⟩).num = n ∧
    atomItems (closeGroup (X.foldl (reduceStep env) ⟨n, [], 0, []⟩)) = atomItems l := by
  have hmem : ∀ x ∈ X, ∃ p ∈ l, x.2 = (Elem.atom p.1, p.2) := fun x hx => by
    have : x.2 ∈ atomItems l := hX ▸ List.mem_map_of_mem hx
    simpa [atomItems, eq_comm] using this
  have hN : X.Pairwise fun x y => sortKey env x.2.1 = sortKey env y.2.1 → NoMerge env x.2 y.2 := by
    rw [← List.pairwise_map (f := Prod.snd)
      (R := fun x y => sortKey env x.1 = sortKey env y.1 → NoMerge env x y), hX, atomItems,
      List.pairwise_map]
    exact hl.1.imp fun h hk a b ha hb => by cases ha; cases hb; exact h.2 hk
  have := foldl_reproduces env n [] 0 X
    ((hK.and hN).imp fun ⟨h1, h2⟩ h => h2 (h1.2 h))
    fun x hx => by obtain ⟨p, hp, h⟩ := hmem x hx; exact ⟨p.1, by rw [h], by rw [h]; exact hl.2 p hp⟩
  exact ⟨this.1, by rw [this.2.1, hX]; rfl⟩

theorem attachKeys_atomsNF (env : Env) (hk : KeysNonneg env) (q : ℚ) (l : List (Nat × Int))
    (hl : AtomsNF env l) (keep : Bool) :
    ∃ X, attachKeys env (numPrefix q ++ atomItems l) keep = (numPrefix q).map (fun it => (-1, it)) ++ X ∧
      X.map Prod.snd = atomItems l ∧ X.Pairwise (KOut env) ∧ ∀ x ∈ X, 0 ≤ x.1 := by
  have hs : (atomItems l).Pairwise fun x y => sortKey env x.1 ≤ sortKey env y.1 :=
    List.pairwise_map.mpr (hl.1.imp fun h => h.1)
  have h0 : ∀ x ∈ atomItems l, 0 ≤ sortKey env x.1 := List.forall_mem_map.mpr fun p _ => hk p.1
  cases keep with
  | false =>
    refine ⟨(atomItems l).map fun it => (sortKey env it.1, it), ?_, by simp [Function.comp_def], ?_,
      List.forall_mem_map.mpr h0⟩
    · simp only [attachKeys, Bool.false_eq_true, if_false, List.map_append]
      unfold numPrefix; split <;> rfl
    · exact List.pairwise_map.mpr (hs.imp fun h => ⟨h, id⟩)
  | true =>
    -- the code's table of first positions starts as `{-1: -1, 0: 0}`; as no sort key is negative
    -- (`hk`), its entry for 0 can stand for "the greatest sort key seen so far"
    have := fun idx => firstIdxKeys_sorted env (atomItems l) idx [(-1, -1), (0, 0)] 0 0
      (fun k hk => by
        rw [List.lookup_cons, show (k == -1) = false by simp; omega, List.lookup_cons]
        by_cases h : k = 0
        · subst h; rfl
        · rw [if_neg h, beq_eq_false_iff_ne.mpr h]; rfl)
      (Int.natCast_nonneg _) hs h0
    refine ⟨firstIdxKeys env (atomItems l) (numPrefix q).length [(-1, -1), (0, 0)], ?_,
      firstIdxKeys_snd .., (this _).1, fun x hx => ?_⟩
    · simp only [attachKeys, if_true]
      unfold numPrefix; split <;> simp [firstIdxKeys, sortKey]
    · rcases (this _).2 x hx with h | h <;> omega

theorem reduceGeneral_fixed (env : Env) (hk : KeysNonneg env) (q : Rat) (l : List (Nat × Int))
    (hl : AtomsNF env l) (keep : Bool) :
    reduceGeneral env (numPrefix q ++ atomItems l) keep = numPrefix q ++ atomItems l := by
  obtain ⟨X, hA, hX, hK, h0⟩ := attachKeys_atomsNF env hk q l hl keep
  have hsorted : ((numPrefix q).map (fun it => ((-1 : Int), it)) ++ X).Pairwise fun a b => a.1 ≤ b.1 :=
    List.pairwise_append.mpr ⟨by unfold numPrefix; split <;> simp, hK.imp (·.1), fun a ha b hb => by
      obtain ⟨_, _, rfl⟩ := List.mem_map.mp ha
      have := h0 b hb
      omega⟩
  have hfold : ((numPrefix q).map fun it => ((-1 : Int), it)).foldl (reduceStep env) ⟨1, [], 0, []⟩
      = ⟨q, [], 0, []⟩ := by
    unfold numPrefix; split
    · simp [reduceStep, rpow_one]
    · simp_all
  obtain ⟨h1, h2⟩ := pass_atomsNF env l hl q X hX hK
  rw [reduceGeneral_eq, pass, hA, sortKeyed_of_sorted _ hsorted, List.foldl_append, hfold, h1, h2]

theorem reduceItems_of_three_le {env : Env} {items : Items} {n : Nat} {keep : Bool} (h : 3 ≤ n) :
    reduceItems env items (some n) keep = reduceGeneral env items keep := by
  unfold reduceItems
  split <;> first | rfl | (rename_i h'; cases h'; omega)

/-- `Term(t.normalized().items)` has the items of the normal form.  `hnc` is
for the two-item shortcut of `_reduce_items`, which asks `_get_factor` whatever
the sort keys are; `AtomsNF` excludes a conversion only under one key (the
general path never compares elements of different keys). -/
theorem mkTerm_fixed (env : Env) (hk : KeysNonneg env) (l : List (Nat × Int))
    (hl : AtomsNF env l)
    (hnc : ∀ p ∈ l, ∀ q ∈ l, p.1 ≠ q.1 → getFactor env q.1 p.1 = none) :
    mkTerm env (atomItems l) = atomItems l := by
  unfold mkTerm
  match l, hl, hnc with
  | [], _, _ => rfl
  | [(a, e)], hl, _ =>
    have he : e ≠ 0 := hl.2 (a, e) (by simp)
    simp [atomItems, reduceItems, filterItems, he]
  | [(a₁, e₁), (a₂, e₂)], hl, hnc =>
    have he₁ : e₁ ≠ 0 := hl.2 (a₁, e₁) (by simp)
    have he₂ : e₂ ≠ 0 := hl.2 (a₂, e₂) (by simp)
    have hne : a₁ ≠ a₂ := by simpa using nodup_fst_of_RNF env _ hl.1
    have hf : getFactor env a₂ a₁ = none := hnc (a₁, e₁) (by simp) (a₂, e₂) (by simp) hne
    simp [atomItems, reduceItems, filterItems, hne, hf, he₁, he₂]
  | p₁ :: p₂ :: p₃ :: rest, hl, _ =>
    have := reduceGeneral_fixed env hk 1 _ hl true
    simp only [numPrefix, bne_self_eq_false, Bool.false_eq_true, ↓reduceIte, List.nil_append] at this
    rw [if_neg (by simp [atomItems]), reduceItems_of_three_le (by simp [atomItems]), this]

end QM
