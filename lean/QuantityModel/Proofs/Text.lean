/-
Text forms.  `AmountText t q` is the grammar of what `str` writes for an
amount — `[-]A`, `[-]A.B`, `[-]A/D` over non-empty digit strings — together
with what the text denotes.  Every text of the grammar parses to what it
denotes and contains no white space; `renderDec` and `renderFrac` write texts
of the grammar.  The round trips are these two facts put together.
-/
import QuantityModel.Model.Text
import Mathlib.Algebra.Order.Field.Rat
import Mathlib.Data.List.TakeWhile
import Mathlib.Tactic.Ring
import Mathlib.Algebra.Order.Ring.Cast
namespace QM

structure Digits (l : List Char) : Prop where
  ne : l ≠ []
  all : ∀ c ∈ l, isDigit c = true

theorem Digits.forall {p : Char → Prop} {A} (hA : Digits A) (hd : ∀ {c}, isDigit c = true → p c) :
    ∀ c ∈ A, p c := fun c h => hd (hA.all c h)

theorem digit_val : ∀ d, d < 10 → (digitChar d).toNat - 48 = d := by decide
theorem digit_isDigit : ∀ d, d < 10 → isDigit (digitChar d) = true := by decide

theorem Digits.single {d} (h : d < 10) : Digits [digitChar d] :=
  ⟨by simp, by simp [digit_isDigit d h]⟩

theorem Digits.append_right {a b} (ha : ∀ c ∈ a, isDigit c = true) (hb : Digits b) :
    Digits (a ++ b) :=
  ⟨by simp [hb.ne], by simpa [or_imp, forall_and] using ⟨ha, hb.all⟩⟩

theorem Digits.take {l k} (h : Digits l) (hk : 0 < k) : Digits (l.take k) :=
  ⟨by simp [h.ne, Nat.ne_of_gt hk], fun c hc => h.all c (List.mem_of_mem_take hc)⟩

theorem Digits.drop {l k} (h : Digits l) (hk : k < l.length) : Digits (l.drop k) :=
  ⟨by simpa using hk, fun c hc => h.all c (List.mem_of_mem_drop hc)⟩

theorem foldl_digitsVal (s : Nat) (cs : List Char) :
    cs.foldl (fun acc c => acc * 10 + (c.toNat - 48)) s = s * 10 ^ cs.length + digitsVal cs := by
  induction cs generalizing s with
  | nil => simp [digitsVal]
  | cons c cs ih =>
    rw [digitsVal, List.foldl_cons, List.foldl_cons, ih, ih (0 * 10 + _)]; simp; ring

theorem digitsVal_append (a b : List Char) :
    digitsVal (a ++ b) = digitsVal a * 10 ^ b.length + digitsVal b := by
  rw [digitsVal, List.foldl_append, foldl_digitsVal]; rfl

theorem digitsVal_zero_cons (l : List Char) : digitsVal ('0' :: l) = digitsVal l := rfl

theorem digitsVal_zeros_append (k : Nat) (l : List Char) :
    digitsVal (List.replicate k '0' ++ l) = digitsVal l := by
  induction k with
  | zero => rfl
  | succ k ih => rw [List.replicate_succ, List.cons_append, digitsVal_zero_cons, ih]

theorem natDigitsAux_spec (fuel n : Nat) (acc : List Char) (h : n ≤ fuel) :
    ∃ ds, Digits ds ∧ digitsVal ds = n ∧ natDigitsAux fuel n acc = ds ++ acc := by
  induction fuel generalizing n acc with
  | zero =>
    obtain rfl : n = 0 := by omega
    exact ⟨_, .single (by omega), rfl, rfl⟩
  | succ k ih =>
    unfold natDigitsAux
    split
    · next hlt => exact ⟨_, .single hlt, by simp [digitsVal, digit_val n hlt], rfl⟩
    · obtain ⟨ds, hd, hv, he⟩ := ih (n / 10) (digitChar (n % 10) :: acc) (by omega)
      have hm : n % 10 < 10 := Nat.mod_lt _ (by omega)
      refine ⟨ds ++ [digitChar (n % 10)], .append_right hd.all (.single hm), ?_, by simp [he]⟩
      rw [digitsVal_append, hv, digitsVal, List.foldl_cons, List.foldl_nil, digit_val _ hm]
      simp; omega

theorem natDigits_digits (n : Nat) : Digits (natDigits n) := by
  obtain ⟨ds, hd, -, he⟩ := natDigitsAux_spec n n [] le_rfl
  rwa [natDigits, he, List.append_nil]

theorem natDigits_val (n : Nat) : digitsVal (natDigits n) = n := by
  obtain ⟨ds, -, hv, he⟩ := natDigitsAux_spec n n [] le_rfl
  rwa [natDigits, he, List.append_nil]

theorem parseNat_digits {ds} (h : Digits ds) : parseNat ds = some (digitsVal ds) := by
  simp [parseNat, h.ne, List.all_eq_true.mpr h.all]

theorem parseNat_natDigits (n : Nat) : parseNat (natDigits n) = some n := by
  rw [parseNat_digits (natDigits_digits n), natDigits_val]

theorem isDigit_ne {c d : Char} (h : isDigit c = true) (hd : isDigit d = false) : c ≠ d := by
  rintro rfl; simp [h] at hd

theorem splitSign_digits_append {A} (hA : Digits A) (tl : List Char) :
    splitSign (A ++ tl) = (false, A ++ tl) := by
  obtain ⟨c, A, rfl⟩ := List.exists_cons_of_ne_nil hA.ne
  have hc := hA.all c (by simp)
  have h1 := isDigit_ne hc (d := '-') (by decide)
  have h2 := isDigit_ne hc (d := '+') (by decide)
  unfold splitSign
  split <;> simp_all

theorem splitSign_minus (tl : List Char) : splitSign ('-' :: tl) = (true, tl) := rfl

theorem splitSign_natDigits_append (n : Nat) (tl : List Char) :
    splitSign (natDigits n ++ tl) = (false, natDigits n ++ tl) :=
  splitSign_digits_append (natDigits_digits n) tl

theorem splitSign_natDigits (n : Nat) : splitSign (natDigits n) = (false, natDigits n) := by
  simpa using splitSign_natDigits_append n []

/-- the optional sign as `str` writes it -/
abbrev signText (neg : Bool) : List Char := if neg then ['-'] else []

theorem splitSign_signText {A} (hA : Digits A) (neg : Bool) (tl : List Char) :
    splitSign (signText neg ++ (A ++ tl)) = (neg, A ++ tl) := by
  cases neg
  · exact splitSign_digits_append hA tl
  · rfl

theorem noExp_of_digit {c} (h : isDigit c = true) : (c != 'e' && c != 'E') = true := by
  simp [isDigit_ne h (d := 'e') (by decide), isDigit_ne h (d := 'E') (by decide)]

theorem bne_of_digit {d} (hd : isDigit d = false) {c} (h : isDigit c = true) : (c != d) = true :=
  bne_iff_ne.2 (isDigit_ne h hd)

theorem Digits.forall_sep {p : Char → Prop} {A B sep} (hA : Digits A) (hB : Digits B)
    (hd : ∀ {c}, isDigit c = true → p c) (hs : p sep) : ∀ c ∈ A ++ sep :: B, p c := by
  simp only [List.mem_append, List.mem_cons]
  rintro c (h | rfl | h)
  exacts [hd (hA.all c h), hs, hd (hB.all c h)]

/-- a body without exponent part and without point is read as a natural number -/
theorem parseDecimalBody_plain {A : List Char} (hexp : ∀ c ∈ A, (c != 'e' && c != 'E') = true)
    (hdot : ∀ c ∈ A, (c != '.') = true) :
    parseDecimalBody A = (parseNat A).map fun n => (n : ℚ) := by
  simp [parseDecimalBody, List.takeWhile_eq_self_iff.mpr hexp, List.dropWhile_eq_nil_iff.mpr hexp,
    List.takeWhile_eq_self_iff.mpr hdot, List.dropWhile_eq_nil_iff.mpr hdot, parseExp, pow10]

theorem parseDecimalBody_digits {A} (hA : Digits A) :
    parseDecimalBody A = some (digitsVal A : ℚ) := by
  rw [parseDecimalBody_plain (hA.forall noExp_of_digit) (hA.forall (bne_of_digit (by decide))),
    parseNat_digits hA]
  rfl

theorem parseDecimalBody_slash {A D} (hA : Digits A) (hD : Digits D) :
    parseDecimalBody (A ++ '/' :: D) = none := by
  have hp : parseNat (A ++ '/' :: D) = none := by
    have : isDigit '/' = false := by decide
    simp [parseNat, this]
  rw [parseDecimalBody_plain (hA.forall_sep hD noExp_of_digit (by decide))
    (hA.forall_sep hD (bne_of_digit (by decide)) (by decide)), hp]
  rfl

theorem parseDecimalBody_point {A B} (hA : Digits A) (hB : Digits B) :
    parseDecimalBody (A ++ '.' :: B) = some ((digitsVal (A ++ B) : ℚ) / 10 ^ B.length) := by
  have hne : ∀ c ∈ A ++ '.' :: B, (c != 'e' && c != 'E') = true :=
    hA.forall_sep hB noExp_of_digit (by decide)
  have hdot : ∀ c ∈ A, (c != '.') = true := hA.forall (bne_of_digit (by decide))
  simp only [parseDecimalBody, List.takeWhile_eq_self_iff.mpr hne,
    List.dropWhile_eq_nil_iff.mpr hne, parseExp, List.takeWhile_append_of_pos hdot,
    List.dropWhile_append_of_pos hdot,
    List.takeWhile_cons, List.dropWhile_cons, bne_self_eq_false, Bool.false_eq_true, ↓reduceIte,
    List.append_nil, List.isEmpty_iff, hA.ne, hB.ne, parseNat_digits hA, parseNat_digits hB]
  simp [pow10, digitsVal_append, add_div]

theorem parseFractionBody_slash {A D} (hA : Digits A) (hD : Digits D) (h0 : digitsVal D ≠ 0) :
    parseFractionBody (A ++ '/' :: D) = some (.ok ((digitsVal A : ℚ) / digitsVal D)) := by
  have hs : ∀ c ∈ A, (c != '/') = true := hA.forall (bne_of_digit (by decide))
  simp [parseFractionBody, List.takeWhile_append_of_pos hs, List.dropWhile_append_of_pos hs,
    parseNat_digits hA, parseNat_digits hD, h0]

/-- the texts `str` writes for amounts, with what they denote: `[-]A`, `[-]A.B`
and `[-]A/D` for digit strings `A`, `B`, `D` (leading and trailing zeros and
unreduced fractions included) -/
inductive AmountText : List Char → ℚ → Prop
  | int (neg : Bool) {A} : Digits A → AmountText (signText neg ++ A) (applySign neg (digitsVal A))
  | point (neg : Bool) {A B} : Digits A → Digits B →
      AmountText (signText neg ++ (A ++ '.' :: B))
        (applySign neg ((digitsVal (A ++ B) : ℚ) / 10 ^ B.length))
  | frac (neg : Bool) {A D} : Digits A → Digits D → digitsVal D ≠ 0 →
      AmountText (signText neg ++ (A ++ '/' :: D))
        (applySign neg ((digitsVal A : ℚ) / digitsVal D))

theorem AmountText.parse {t q} (h : AmountText t q) : parseAmountStr t = .ok q := by
  cases h with
  | int neg hA =>
    have := splitSign_signText hA neg []
    simp_all [parseAmountStr, parseDecimalLit, parseDecimalBody_digits hA]
  | point neg hA hB =>
    simp [parseAmountStr, parseDecimalLit, splitSign_signText hA, parseDecimalBody_point hA hB]
  | frac neg hA hD h0 =>
    simp [parseAmountStr, parseDecimalLit, parseFractionLit, splitSign_signText hA,
      parseDecimalBody_slash hA hD, parseFractionBody_slash hA hD h0, Except.map]

theorem not_space_of_digit {c} (h : isDigit c = true) : isSpace c = false := by
  by_contra hs
  simp only [isSpace, Bool.not_eq_false, Bool.or_eq_true, beq_iff_eq] at hs
  rcases hs with ((((rfl | rfl) | rfl) | rfl) | rfl) | rfl <;> revert h <;> decide

theorem AmountText.no_space {t q} (h : AmountText t q) : t ≠ [] ∧ ∀ c ∈ t, isSpace c = false := by
  have hs : ∀ neg, ∀ c ∈ signText neg, isSpace c = false := by
    intro neg; cases neg <;> simp [signText]; decide
  cases h with
  | int neg hA =>
    exact ⟨by simp [hA.ne], List.forall_mem_append.2 ⟨hs neg, hA.forall not_space_of_digit⟩⟩
  | point neg hA hB | frac neg hA hB _ =>
    exact ⟨by simp,
      List.forall_mem_append.2 ⟨hs neg, hA.forall_sep hB not_space_of_digit (by decide)⟩⟩

theorem applySign_natAbs_div (i : ℤ) (d : ℚ) :
    applySign (decide (i < 0)) ((i.natAbs : ℚ) / d) = (i : ℚ) / d := by
  rw [Nat.cast_natAbs, Int.cast_abs]
  rcases lt_or_ge i 0 with h | h
  · simp [applySign, h, abs_of_neg (Int.cast_lt_zero.mpr h), neg_div]
  · simp [applySign, not_lt.mpr h, abs_of_nonneg (Int.cast_nonneg h)]

theorem signText_decide (P : Prop) [Decidable P] :
    (if P then ['-'] else []) = signText (decide P) := by simp [signText]

theorem renderFrac_text (q : ℚ) : AmountText (renderFrac q) q := by
  have hN := natDigits_digits q.num.natAbs
  have hv := applySign_natAbs_div q.num
  unfold renderFrac
  rw [signText_decide]
  split
  · next h1 =>
    have := AmountText.int (decide (q.num < 0)) hN
    -- (`hv` is stated for a quotient: the integer is written as `n / 1` to use it)
    rwa [natDigits_val, ← div_one (Nat.cast _), hv, div_one,
      Rat.coe_int_num_of_den_eq_one h1] at this
  · have := AmountText.frac (decide (q.num < 0)) hN (natDigits_digits q.den)
      (by rw [natDigits_val]; exact q.den_nz)
    rwa [natDigits_val, natDigits_val, hv, Rat.num_div_den, ← List.append_assoc] at this

theorem renderDec_text (v : ℤ) (p : Nat) : AmountText (renderDec v p) ((v : ℚ) / 10 ^ p) := by
  have hN := natDigits_digits v.natAbs
  have hv := applySign_natAbs_div v
  unfold renderDec
  dsimp only
  rw [signText_decide]
  split_ifs with h0 hlen
  · have := AmountText.int (decide (v < 0)) hN
    rwa [natDigits_val, ← div_one (Nat.cast _), hv, ← pow_zero 10, ← h0] at this
  · have := AmountText.point (decide (v < 0))
      (hN.take (k := (natDigits v.natAbs).length - p) (by omega))
      (hN.drop (k := (natDigits v.natAbs).length - p) (by omega))
    rwa [List.take_append_drop, natDigits_val, List.length_drop, Nat.sub_sub_self (by omega), hv,
      ← List.append_assoc] at this
  · have hz : ∀ c ∈ List.replicate (p - (natDigits v.natAbs).length) '0', isDigit c = true :=
      fun c hc => by rw [List.eq_of_mem_replicate hc]; decide
    have h0' : Digits ['0'] := .single (d := 0) (by omega)
    have := AmountText.point (decide (v < 0)) h0' (Digits.append_right hz hN)
    rwa [List.singleton_append, List.singleton_append, digitsVal_zero_cons, digitsVal_zeros_append,
      natDigits_val, List.length_append, List.length_replicate, Nat.sub_add_cancel (by omega),
      hv] at this

theorem renderAmount_text : (a : AmountRepr) → AmountText (renderAmount a) a.val
  | .dec v p => renderDec_text v p
  | .frac q => renderFrac_text q

/-- `str` of a Decimal amount (internal value `v`, precision `p`) parses back
to exactly `v / 10^p` -/
theorem parse_render_dec (v : ℤ) (p : Nat) :
    parseAmountStr (renderDec v p) = .ok ((v : ℚ) / (10 : ℚ) ^ p) := (renderDec_text v p).parse

/-- `str` of a Fraction amount parses back to exactly that rational -/
theorem parse_render_frac (q : ℚ) : parseAmountStr (renderFrac q) = .ok q :=
  (renderFrac_text q).parse

/-- an amount, one blank, a symbol without leading or trailing blank: split at
the FIRST blank (inner blanks of the symbol are fine) -/
theorem AmountText.parse_qty {t q} (ht : AmountText t q) (sym : List Char)
    (hs : stripChars sym = sym) : parseQtyStr (t ++ ' ' :: sym) = .ok (q, some sym) := by
  obtain ⟨hne, hsp⟩ := ht.no_space
  obtain ⟨c, r, hr⟩ := List.exists_cons_of_ne_nil hne
  have hbl : ∀ c ∈ t, (c != ' ') = true := fun c hc => by
    rw [bne_iff_ne]; rintro rfl; exact absurd (hsp _ hc) (by decide)
  have hdrop : (t ++ ' ' :: sym).dropWhile isSpace = t ++ ' ' :: sym := by
    rw [hr, List.cons_append, List.dropWhile_cons_of_neg (by simp [hsp c (by simp [hr])])]
  simp [parseQtyStr, hdrop, List.takeWhile_append_of_pos hbl, List.dropWhile_append_of_pos hbl,
    ht.parse, hs]

/-- `str(q)` — amount, one blank, symbol — splits back into exactly the
amount's value and the symbol, provided the symbol has no leading or trailing
blank (inner blanks are fine: the string is split at the FIRST blank) -/
theorem parse_render_qty (a : AmountRepr) (sym : List Char) (hs : stripChars sym = sym) :
    parseQtyStr (renderAmount a ++ ' ' :: sym) = .ok (a.val, some sym) :=
  (renderAmount_text a).parse_qty sym hs

end QM
