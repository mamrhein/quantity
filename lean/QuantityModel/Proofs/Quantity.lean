/-
The quantity-level operators as equations.  `unitEq`, `unitFactor` and
`equivAmount` are given on a pair of units that is `Linear` (one class with a
reference unit, both scales known: what `Unit._get_factor` needs to return a
factor), that has `NoFactor`, or that lies in two classes.  Every binary
operator on two quantities of one class is a function of
`equivAmount b a.unit`: the code's branch "same unit" is the case in which
that is `b.amount`.
-/
import QuantityModel.Model.Quantity
import QuantityModel.Proofs.RoundingQ
namespace QM
open QM.QState

/-- `u` and `v` are units of one class that has a reference unit, with scales `a`, `b` -/
structure Linear (s : RegState) (u v : Nat) (a b : ℚ) : Prop where
  sameCls : s.unitCls u = s.unitCls v
  hasRef : (s.cls (s.unitCls u)).refUnit.isSome = true
  eu : (s.unit u).equiv = some a
  ev : (s.unit v).equiv = some b

theorem Linear.symm {s u v a b} (h : Linear s u v a b) : Linear s v u b a :=
  ⟨h.sameCls.symm, h.sameCls ▸ h.hasRef, h.ev, h.eu⟩

theorem Linear.refUnit_isNone {s u v a b} (h : Linear s u v a b) :
    (s.cls (s.unitCls u)).refUnit.isNone = false := Option.isNone_eq_false_iff.2 h.hasRef

/-- two different units of one class between which `Unit._get_factor` finds no
factor: the class has no reference unit, or one of the two has no scale -/
structure NoFactor (s : RegState) (u v : Nat) : Prop where
  sameCls : s.unitCls u = s.unitCls v
  ne : u ≠ v
  missing : (s.cls (s.unitCls u)).refUnit = none ∨ (s.unit u).equiv = none ∨
    (s.unit v).equiv = none

theorem NoFactor.of_noRef {s u v} (hc : s.unitCls u = s.unitCls v) (hne : u ≠ v)
    (h : (s.cls (s.unitCls u)).refUnit = none) : NoFactor s u v := ⟨hc, hne, .inl h⟩

theorem NoFactor.of_noScale {s u v} (hc : s.unitCls u = s.unitCls v) (hne : u ≠ v)
    (h : (s.unit u).equiv = none) : NoFactor s u v := ⟨hc, hne, .inr (.inl h)⟩

theorem NoFactor.symm {s u v} (h : NoFactor s u v) : NoFactor s v u :=
  ⟨h.sameCls.symm, h.ne.symm, h.sameCls ▸ h.missing.imp_right Or.symm⟩

section Units
variable {s : RegState} {u v : Nat}

theorem unitFactor_linear {a b} (h : Linear s u v a b) :
    s.unitFactor u v = some (some (a / b)) := by
  -- (`h.symm`: by then `simp` has rewritten `unitCls u` into `unitCls v`)
  simp [RegState.unitFactor, h.sameCls, h.symm.refUnit_isNone, h.eu, h.ev]

theorem unitEq_linear {a b} (h : Linear s u v a b) : s.unitEq u v = some (a == b) := by
  simp [RegState.unitEq, h.sameCls, h.symm.refUnit_isNone, h.eu, h.ev]

theorem unitFactor_noFactor (h : NoFactor s u v) : s.unitFactor u v = some none := by
  unfold RegState.unitFactor
  rw [if_neg (by simp [h.sameCls])]
  rcases h.missing with m | m | m <;> simp [m]

theorem unitEq_noFactor (h : NoFactor s u v) : s.unitEq u v = some false := by
  unfold RegState.unitEq
  rw [if_neg (by simp [h.sameCls])]
  rcases h.missing with m | m | m <;> simp [m, h.ne]

theorem unitFactor_other_class (h : s.unitCls u ≠ s.unitCls v) : s.unitFactor u v = none := by
  simp [RegState.unitFactor, h]

theorem unitEq_self : s.unitEq u u = some true := by
  unfold RegState.unitEq; cases (s.unit u).equiv <;> simp

theorem unitEq_comm : s.unitEq u v = s.unitEq v u := by
  unfold RegState.unitEq
  by_cases hc : s.unitCls u = s.unitCls v
  · rw [hc, BEq.comm (a := u)]
    cases (s.unit u).equiv <;> cases (s.unit v).equiv <;> simp [BEq.comm]
  · simp [hc, Ne.symm hc]

end Units

theorem mkQty_own_class {s : RegState} {d a u} :
    s.mkQty d (some (s.unitCls u)) a u = s.mkQty d none a u := by
  simp [RegState.mkQty]

theorem mkQty_other_class {s : RegState} {d c a u} (h : c ≠ s.unitCls u) :
    s.mkQty d (some c) a u = .error .QuantityError := by
  simp [RegState.mkQty, h]

/-- construction without quantum stores the amount exactly -/
theorem mkQty_no_quantum {s : RegState} {d c a u} (hc : c = s.unitCls u)
    (hq : s.unitQuantum u = none) : s.mkQty d (some c) a u = .ok ⟨a, u⟩ := by
  simp [RegState.mkQty, RegState.mkQty.go, hc, hq]

/-- construction with quantum `qu ≠ 0`: the multiple of `qu` selected by the
default mode -/
theorem mkQty_quantum {s : RegState} {d c a u qu} (hc : c = s.unitCls u)
    (hq : s.unitQuantum u = some qu) (hne : qu ≠ 0) :
    s.mkQty d (some c) a u = .ok ⟨(roundQ d (a / qu) : ℚ) * qu, u⟩ := by
  simp [RegState.mkQty, RegState.mkQty.go, hc, hq, roundToGrid_eq d a hne]

section EquivAmount
variable {s : QState} {q : Qty} {v : Nat}

theorem equivAmount_self : s.equivAmount q q.unit = .ok (some q.amount) := by
  simp [QState.equivAmount, unitEq_self]

/-- `equiv_amount` between linear units is multiplication by the ratio of scales
(when the scales coincide the amount is returned as it is — the same value). -/
theorem equivAmount_linear {a b} (h : Linear s.reg q.unit v a b) (hb : b ≠ 0) :
    s.equivAmount q v = .ok (some (a / b * q.amount)) := by
  rw [QState.equivAmount, unitEq_linear h, unitFactor_linear h]
  -- units of equal scale are equal units: the code returns the amount as it is
  cases hab : a == b
  · rfl
  · rw [eq_of_beq hab, div_self hb, one_mul]

theorem equivAmount_other_class (h : s.reg.unitCls q.unit ≠ s.reg.unitCls v) :
    s.equivAmount q v = .error .IncompatibleUnitsError := by
  simp [QState.equivAmount, RegState.unitEq, unitFactor_other_class, h]

theorem equivAmount_noFactor (h : NoFactor s.reg q.unit v) :
    s.equivAmount q v =
      if (s.reg.cls (s.reg.unitCls q.unit)).isMoney then
        match s.mstack.reverse with
        | [] => .ok none
        | top :: _ => ((s.mconvs.getD top default).call s.dfltMode q.amount q.unit v
            s.today.1 s.today.2.1 s.today.2.2).map some
      else equivAmount.tryConv s q v (s.clsConverters (s.reg.unitCls q.unit)).reverse := by
  unfold QState.equivAmount
  rw [unitEq_noFactor h, unitFactor_noFactor h]
  rfl

theorem equivAmount_no_converter (h : NoFactor s.reg q.unit v)
    (hmoney : (s.reg.cls (s.reg.unitCls q.unit)).isMoney = false)
    (hconv : s.clsConverters (s.reg.unitCls q.unit) = []) : s.equivAmount q v = .ok none := by
  rw [equivAmount_noFactor h, hmoney, hconv]; rfl

theorem equivAmount_no_money_converter (h : NoFactor s.reg q.unit v)
    (hmoney : (s.reg.cls (s.reg.unitCls q.unit)).isMoney = true) (hstack : s.mstack = []) :
    s.equivAmount q v = .ok none := by
  rw [equivAmount_noFactor h, hmoney, hstack]; rfl

end EquivAmount

section Operators
variable {s : QState} {d : Rounding} {x y : Qty}

theorem qtyEq_same_class (hc : s.reg.unitCls x.unit = s.reg.unitCls y.unit) :
    s.qtyEq x y =
      match s.equivAmount y x.unit with
      | .error e => .error e
      | .ok (some e) => .ok (x.amount == e)
      | .ok none => .ok false := by
  unfold QState.qtyEq
  by_cases hu : x.unit = y.unit
  · simp [hu, equivAmount_self]
  · simp [hc, hu]; rfl

theorem qtyCmp_same_class (c : Cmp) (hc : s.reg.unitCls x.unit = s.reg.unitCls y.unit) :
    s.qtyCmp c x y =
      match s.equivAmount y x.unit with
      | .error e => .error e
      | .ok none => .error .UnitConversionError
      | .ok (some e) => .ok (c.eval x.amount e) := by
  unfold QState.qtyCmp
  by_cases hu : x.unit = y.unit
  · simp [hu, equivAmount_self]
  · simp [hc, hu]; rfl

/-- the code's test `self.unit == other.unit` is `equiv_amount`'s own first test -/
theorem qtyAddSub_same_class (sign : ℚ) (hc : s.reg.unitCls x.unit = s.reg.unitCls y.unit) :
    s.qtyAddSub d sign x y =
      match s.equivAmount y x.unit with
      | .error e => .error e
      | .ok none => .error .UnitConversionError
      | .ok (some e) => s.reg.mkQty d (some (s.reg.unitCls x.unit)) (x.amount + sign * e) x.unit := by
  unfold QState.qtyAddSub QState.equivAmount
  rw [unitEq_comm (u := y.unit)]
  rcases s.reg.unitEq x.unit y.unit with _ | _ | _ <;> simp [hc]; rfl

theorem qtyDiv_same_class (hc : s.reg.unitCls x.unit = s.reg.unitCls y.unit) :
    s.qtyDiv d x y =
      match s.equivAmount y x.unit with
      | .error e => (s, .error e)
      | .ok none => (s, .error .UnitConversionError)
      | .ok (some e) =>
        if e = 0 then (s, .error .ZeroDivisionError) else (s, .ok (.num (x.amount / e))) := by
  simp [QState.qtyDiv, hc]; rfl

variable {a b : ℚ}

theorem convert_linear {v} (h : Linear s.reg x.unit v a b) (hb : b ≠ 0) :
    s.convert d x v = s.reg.mkQty d (some (s.reg.unitCls v)) (a / b * x.amount) v := by
  rw [QState.convert, equivAmount_linear h hb]

theorem qtyEq_linear (h : Linear s.reg y.unit x.unit b a) (ha : a ≠ 0) :
    s.qtyEq x y = .ok (x.amount == b / a * y.amount) := by
  rw [qtyEq_same_class h.sameCls.symm, equivAmount_linear h ha]

theorem qtyCmp_linear (c : Cmp) (h : Linear s.reg y.unit x.unit b a) (ha : a ≠ 0) :
    s.qtyCmp c x y = .ok (c.eval x.amount (b / a * y.amount)) := by
  rw [qtyCmp_same_class c h.sameCls.symm, equivAmount_linear h ha]

theorem qtyAddSub_linear (sign : ℚ) (h : Linear s.reg y.unit x.unit b a) (ha : a ≠ 0) :
    s.qtyAddSub d sign x y = s.reg.mkQty d (some (s.reg.unitCls x.unit))
      (x.amount + sign * (b / a * y.amount)) x.unit := by
  rw [qtyAddSub_same_class sign h.sameCls.symm, equivAmount_linear h ha]

theorem qtyQuantize_linear {quant : Qty} {aDec m} {uq ua : ℚ}
    (h : Linear s.reg quant.unit x.unit uq ua) (hua : ua ≠ 0) :
    s.qtyQuantize d x aDec quant m =
      if x.amount = 0 then .ok x
      else
        match (match aDec with
          | some (v, p) => decQuantize v p (uq / ua * quant.amount) m d
          | none => Gen.quantizeFraction x.amount (uq / ua * quant.amount) m d) with
        | .error e => .error e
        | .ok r => s.reg.mkQty d (some (s.reg.unitCls x.unit)) r x.unit := by
  simp only [QState.qtyQuantize, h.sameCls, bne_self_eq_false, Bool.false_eq_true, ↓reduceIte,
    h.symm.refUnit_isNone, equivAmount_linear h hua]
  rfl

end Operators

theorem Cmp.eval_mul_left (c : Cmp) {k : ℚ} (hk : 0 < k) (x y : ℚ) :
    c.eval (k * x) (k * y) = c.eval x y := by
  cases c
  exacts [decide_eq_decide.mpr (mul_lt_mul_iff_of_pos_left hk),
    decide_eq_decide.mpr (mul_le_mul_iff_of_pos_left hk),
    decide_eq_decide.mpr (mul_lt_mul_iff_of_pos_left hk),
    decide_eq_decide.mpr (mul_le_mul_iff_of_pos_left hk)]

end QM
