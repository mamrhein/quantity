/-
Shape of reduced / normalised terms: no operation invents an element — every
non-numeric element of the result occurs in the input; normalisation yields
base elements only (given that stored normalised definitions do).  A list
whose numeric item, if any, is the head denotes its numeric part when every
atom is worth 1 (`den_eq_numPart`: how Proofs/Scale reads the scale of a unit
off its normalised definition).
-/
import QuantityModel.Proofs.Term
namespace QM

def atomsOf (items : Items) : List Nat :=
  items.filterMap fun it => match it.1 with | .atom a => some a | .num _ => none

theorem mem_atomsOf {items : Items} {a : Nat} :
    a ∈ atomsOf items ↔ ∃ e, (Elem.atom a, e) ∈ items := by
  simp only [atomsOf, List.mem_filterMap, Prod.exists]
  refine ⟨?_, fun ⟨e, h⟩ => ⟨_, e, h, rfl⟩⟩
  rintro ⟨_ | b, e, hm, h⟩ <;> simp at h
  exact ⟨e, h ▸ hm⟩

theorem atomsOf_cons_num (q : Rat) (e : Int) (l : Items) : atomsOf ((Elem.num q, e) :: l) = atomsOf l := by
  simp [atomsOf]

theorem atomsOf_cons_atom (a : Nat) (e : Int) (l : Items) :
    atomsOf ((Elem.atom a, e) :: l) = a :: atomsOf l := by
  simp [atomsOf]

theorem atomsOf_append (l₁ l₂ : Items) : atomsOf (l₁ ++ l₂) = atomsOf l₁ ++ atomsOf l₂ := by
  simp [atomsOf, List.filterMap_append]

theorem atomsOf_atomItems (l : List (Nat × Int)) : atomsOf (atomItems l) = l.map Prod.fst := by
  simp [atomsOf, atomItems, List.filterMap_map]

theorem atomsOf_map_exp (l : Items) (f : Int → Int) :
    atomsOf (l.map fun (b, be) => (b, f be)) = atomsOf l := by
  simp [atomsOf, List.filterMap_map]

theorem atomsOf_flatMap (l : Items) (f : Item → Items) (a : Nat)
    (h : a ∈ atomsOf (l.flatMap f)) : ∃ it ∈ l, a ∈ atomsOf (f it) := by
  rw [atomsOf, List.filterMap_flatMap] at h
  exact List.mem_flatMap.mp h

theorem Rew.atoms {env : Env} {l l' : Items} (h : Rew env l l') :
    ∀ a ∈ atomsOf l', a ∈ atomsOf l := by
  induction h with
  | perm h => exact fun a => (h.filterMap _).mem_iff.mpr
  | trans _ _ ih₁ ih₂ => exact fun a ha => ih₁ a (ih₂ a ha)
  | append _ _ ih₁ ih₂ =>
    simp only [atomsOf_append, List.mem_append]
    exact fun a ha => ha.imp (ih₁ a) (ih₂ a)
  | _ => simp [atomsOf]

theorem reduceGeneral_atoms (env : Env) (items : Items) (keep : Bool) (a : Nat)
    (h : a ∈ atomsOf (reduceGeneral env items keep)) : a ∈ atomsOf items :=
  (rew_reduceGeneral env items keep).atoms a h

/-- no path of `_reduce_items` invents an element -/
theorem reduceItems_atoms (env : Env) (items : Items) (n : Option Nat) (keep : Bool) (a : Nat)
    (h : a ∈ atomsOf (reduceItems env items n keep)) : a ∈ atomsOf items :=
  (rew_reduceItems env items n keep).atoms a h

theorem mkTerm_atoms (env : Env) (items : Items) (a : Nat) (h : a ∈ atomsOf (mkTerm env items)) :
    a ∈ atomsOf items :=
  (rew_mkTerm env items).atoms a h

def BaseOnly (env : Env) (items : Items) : Prop := ∀ a ∈ atomsOf items, (env.info a).isBase = true

/-- stored normalised definitions of derived elements mention base elements only -/
def DefsBaseOnly (env : Env) : Prop :=
  ∀ a, (env.info a).isBase = false → BaseOnly env (env.info a).normDef

theorem iterNormalized_of_baseOnly (env : Env) (fuel : Nat) (items : Items)
    (h : BaseOnly env items) : iterNormalized env fuel items = items := by
  cases fuel with
  | zero => rfl
  | succ n =>
    unfold iterNormalized
    rw [List.flatMap_congr (g := fun it => [it]), List.flatMap_singleton']
    intro ⟨el, e⟩ hm
    cases el with
    | num q => rfl
    | atom b => simp [h b (mem_atomsOf.mpr ⟨e, hm⟩)]

/-- One level of expansion is what `_iter_normalized` amounts to when stored
definitions are base-only. -/
theorem iterNormalized_atoms (env : Env) (hd : DefsBaseOnly env) (n : Nat) (items : Items) (a : Nat)
    (h : a ∈ atomsOf (iterNormalized env (n + 1) items)) :
    (a ∈ atomsOf items ∧ (env.info a).isBase = true) ∨
      ∃ b ∈ atomsOf items, (env.info b).isBase = false ∧ a ∈ atomsOf (env.info b).normDef := by
  unfold iterNormalized at h
  obtain ⟨⟨el, e⟩, hm, hin⟩ := atomsOf_flatMap _ _ a h
  cases el with
  | num q => simp [atomsOf] at hin
  | atom b =>
    have hmb := mem_atomsOf.mpr ⟨e, hm⟩
    cases hb : (env.info b).isBase with
    | true =>
      obtain rfl : a = b := by simpa [hb, atomsOf] using hin
      exact .inl ⟨hmb, hb⟩
    | false =>
      have hbo : BaseOnly env ((env.info b).normDef.map fun (x, be) => (x, be * e)) := by
        unfold BaseOnly; rw [atomsOf_map_exp _ (· * e)]; exact hd b hb
      simp only [hb, Bool.false_eq_true, ↓reduceIte, iterNormalized_of_baseOnly env n _ hbo] at hin
      rw [atomsOf_map_exp _ (· * e)] at hin
      exact .inr ⟨b, hmb, hb, hin⟩

theorem iterNormalized_baseOnly (env : Env) (n : Nat) (items : Items) (hd : DefsBaseOnly env) :
    BaseOnly env (iterNormalized env (n + 1) items) := fun a ha => by
  rcases iterNormalized_atoms env hd n items a ha with ⟨_, h⟩ | ⟨b, _, hb, hab⟩
  · exact h
  · exact hd b hb a hab

theorem normalizedItems_baseOnly (env : Env) (t : Items) (hd : DefsBaseOnly env) :
    BaseOnly env (normalizedItems env t) := fun a ha =>
  iterNormalized_baseOnly env _ t hd a (reduceGeneral_atoms env _ false a ha)

theorem markedNormal_cases {env : Env} {t : Items} (h : markedNormal env t = true) :
    (∃ q, t = [(.num q, 1)]) ∨ ∃ a e, t = [(.atom a, e)] ∧ (env.info a).isBase = true := by
  unfold markedNormal at h
  split at h
  · exact .inl ⟨_, by rw [eq_of_beq h]⟩
  · exact .inr ⟨_, _, rfl, h⟩
  · cases h

theorem termNormalized_baseOnly (env : Env) (t : Items) (hd : DefsBaseOnly env) :
    BaseOnly env (termNormalized env t) := by
  unfold termNormalized
  split
  · obtain ⟨q, rfl⟩ | ⟨a, e, rfl, hb⟩ := markedNormal_cases ‹_› <;> simp [BaseOnly, atomsOf, *]
  · exact normalizedItems_baseOnly env t hd

/-- atoms of a normalised term come from the term itself or from the stored
normalised definition of one of its derived elements -/
theorem termNormalized_atoms (env : Env) (t : Items) (hd : DefsBaseOnly env) (a : Nat)
    (h : a ∈ atomsOf (termNormalized env t)) :
    a ∈ atomsOf t ∨ ∃ b ∈ atomsOf t, (env.info b).isBase = false ∧ a ∈ atomsOf (env.info b).normDef := by
  unfold termNormalized at h
  split at h
  · exact .inl h
  · exact (iterNormalized_atoms env hd _ t a (reduceGeneral_atoms env _ false a h)).imp_left (·.1)

def numPart (items : Items) : Rat :=
  match items with
  | (.num q, e) :: _ => rpow q e
  | _ => 1

theorem numPart_eq_numElem (items : Items) : numPart items = (numElem items).getD 1 := by
  unfold numPart numElem
  split <;> simp

/-- the numeric item, if any, is the head: everything after it is non-numeric -/
def TailAtoms (items : Items) : Prop := ∀ it ∈ items.tail, ∃ a, it.1 = Elem.atom a

theorem den_atoms_one (ν : Nat → ℚ) (l : Items) (hall : ∀ it ∈ l, ∃ a, it.1 = Elem.atom a)
    (h1 : ∀ a ∈ atomsOf l, ν a = 1) : den ν l = 1 := by
  induction l with
  | nil => rfl
  | cons it rest ih =>
    obtain ⟨el, e⟩ := it
    obtain ⟨a, rfl⟩ : ∃ a, el = Elem.atom a := hall (el, e) (by simp)
    rw [atomsOf_cons_atom] at h1
    rw [den_cons, ih (fun x hx => hall x (List.mem_cons_of_mem _ hx))
      (fun b hb => h1 b (List.mem_cons_of_mem _ hb))]
    simp [evalElem, h1 a]

theorem den_eq_numPart (ν : Nat → ℚ) (items : Items) (ht : TailAtoms items)
    (h1 : ∀ a ∈ atomsOf items, ν a = 1) : den ν items = numPart items := by
  match items with
  | [] => rfl
  | (.num q, e) :: rest =>
    rw [den_cons, den_atoms_one ν rest ht (by rwa [atomsOf_cons_num] at h1)]
    simp [evalElem, numPart, rpow_eq_zpow]
  | (.atom a, e) :: rest =>
    exact den_atoms_one ν _ (List.forall_mem_cons.mpr ⟨⟨a, rfl⟩, ht⟩) h1

theorem reduceGeneral_tailAtoms (env : Env) (items : Items) (keep : Bool) :
    TailAtoms (reduceGeneral env items keep) := by
  have hat : ∀ l : List (Nat × Int), ∀ it ∈ atomItems l, ∃ a, it.1 = Elem.atom a :=
    fun l => List.forall_mem_map.mpr fun p _ => ⟨p.1, rfl⟩
  rw [reduceGeneral_eq]
  unfold numPrefix TailAtoms
  split
  · exact hat _
  · exact fun it hit => hat _ it (List.mem_of_mem_tail hit)

theorem termNormalized_tailAtoms (env : Env) (t : Items) : TailAtoms (termNormalized env t) := by
  unfold termNormalized
  split
  · obtain ⟨q, rfl⟩ | ⟨a, e, rfl, -⟩ := markedNormal_cases ‹_› <;> simp [TailAtoms]
  · exact reduceGeneral_tailAtoms env _ false

end QM
