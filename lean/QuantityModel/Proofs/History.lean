/-
Every history: states reached by ANY interleaving of declarations (valid or
rejected) and unit operations.  The operation cache only ever holds entries
that name existing units and have the value of the operation they stand for
under the stored scales — an invariant of declarations (which add units and
leave the cache and the old scales alone) and of operations (which add sound
entries).  It discharges the cache hypothesis of the C17 theorems.
-/
import QuantityModel.Proofs.Scale
namespace QM

/-- cached entries name existing units -/
def CacheBounded (s : RegState) : Prop :=
  ∀ op u v f w, ((op, u, v), (f, w)) ∈ s.opCache →
    u < s.units.length ∧ v < s.units.length ∧ ∀ w', w = some w' → w' < s.units.length

/-- `s'` extends `s`: same cache, old units keep their scales -/
structure Extends (s s' : RegState) : Prop where
  cache : s'.opCache = s.opCache
  len : s.units.length ≤ s'.units.length
  nu : ∀ w, w < s.units.length → s'.nu w = s.nu w

theorem Extends.refl (s : RegState) : Extends s s := ⟨rfl, le_refl _, fun _ _ => rfl⟩

theorem Extends.trans {a b c : RegState} (h1 : Extends a b) (h2 : Extends b c) : Extends a c :=
  ⟨h2.cache.trans h1.cache, le_trans h1.len h2.len,
   fun w hw => (h2.nu w (lt_of_lt_of_le hw h1.len)).trans (h1.nu w hw)⟩

theorem Same.extends {s s' : RegState} (h : Same s s') : Extends s s' :=
  ⟨h.opCache, h.len ▸ le_refl _, fun w _ => congrFun h.nu w⟩

theorem extends_makeUnit {s s' : RegState} {c : Nat} {sym : String} {defn : Option Items}
    {isRef : Bool} {uid : Nat} (h : s.makeUnit c sym defn isRef = .ok (s', uid)) : Extends s s' :=
  have m := makeUnit_effect h
  ⟨m.opCache, m.len ▸ Nat.le_succ _, fun w hw => by unfold RegState.nu; rw [m.old w hw]⟩

theorem extends_applyDecl (s : RegState) (d : Decl) : Extends s (s.applyDecl d) := by
  cases d with
  | cls d =>
    exact declClass_cases (P := fun r => Extends s r.1) s d
      (rejected := fun _ => .refl s) (plain := fun _ => Same.extends)
      -- entering the reference unit into its class touches neither units nor cache
      (withRef := fun _ _ _ _ _ _ h1 _ _ _ h =>
        (h1.extends.trans (extends_makeUnit h)).trans ⟨rfl, le_refl _, fun _ _ => rfl⟩)
  | newUnit c sym d =>
    exact newUnit_cases (P := fun r => Extends s r.1) s c sym d
      (rejected := fun _ => .refl s) (made := fun _ _ _ _ _ _ h => extends_makeUnit h)
  | derive c args sym =>
    exact deriveUnit_cases (P := fun r => Extends s r.1) s c args sym
      (rejected := fun _ => .refl s) (made := fun _ _ _ _ _ h => extends_makeUnit h)
  | currency mc sym mi sf =>
    exact newCurrency_cases (P := fun r => Extends s r.1) s mc sym mi sf
      (rejected := fun _ => .refl s)
      (made := fun _ frac s' uid _ _ h =>
        (extends_makeUnit h).trans (Same.setFraction s' uid frac).extends)

theorem cache_after_decl {s s' : RegState} (h : Extends s s') (hB : CacheBounded s)
    (hC : CacheSound s s.nu) : CacheBounded s' ∧ CacheSound s' s'.nu := by
  -- an entry of the new cache is an entry of the old one, between units `a`, `b`, `c` that existed
  have old : ∀ {op u v f w}, ((op, u, v), (f, w)) ∈ s'.opCache → ((op, u, v), (f, w)) ∈ s.opCache ∧
      u < s.units.length ∧ v < s.units.length ∧ ∀ w', w = some w' → w' < s.units.length :=
    fun hm => ⟨h.cache ▸ hm, hB _ _ _ _ _ (h.cache ▸ hm)⟩
  refine ⟨fun op u v f w hm => ?_, fun op u v f w hm => ?_⟩
  · obtain ⟨-, a, b, c⟩ := old hm
    exact ⟨lt_of_lt_of_le a h.len, lt_of_lt_of_le b h.len, fun w' hw => lt_of_lt_of_le (c w' hw) h.len⟩
  · obtain ⟨hm, a, b, c⟩ := old hm
    have ew : optVal s'.nu w = optVal s.nu w := by
      cases w with
      | none => rfl
      | some w' => exact h.nu w' (c w' rfl)
    rw [ew, h.nu u a, h.nu v b]
    exact hC op u v f w hm

theorem amntAndUnit_unit_lt (s : RegState) (hD : DirInv s) (t : Items) (f : ℚ) (w : Nat)
    (h : s.amntAndUnit t = some (f, some w)) : w < s.units.length := by
  have key : ∀ t' u, s.unitFromTerm t' = some u → u < s.units.length :=
    fun t' u hu => (hD.termMap _ _ (lookup_mem _ _ _ hu)).1
  refine amntAndUnit_cases (P := fun r => r = some (f, some w) → _) s t
    (direct := fun u hu h => ?_) (number := fun _ h => nomatch h)
    (scaled := fun u hu h => ?_) (failed := fun _ _ h => nomatch h) h
  all_goals cases h; exact key _ _ hu

theorem Fresh.lt {s : QState} (hD : DirInv s.reg) {op : UOp} {u v : Nat} {f : ℚ} {w : Nat}
    (h : Fresh s op u v (f, some w)) : w < s.reg.units.length := by
  cases h with
  | product hr => exact amntAndUnit_unit_lt s.reg hD _ f w hr
  | quotient hr => exact amntAndUnit_unit_lt s.reg hD _ f w hr

/-- states reached from `import quantity` by declarations (well-formed
arguments; valid or rejected) and unit products / quotients, interleaved in
any order -/
inductive ReachableQ : QState → Prop where
  | init : ReachableQ { reg := RegState.init }
  | decl (s : QState) (d : Decl) : ReachableQ s → d.WF s.reg →
      ReachableQ { s with reg := s.reg.applyDecl d }
  | mul (s : QState) (u v : Nat) : ReachableQ s → u < s.reg.units.length →
      v < s.reg.units.length → ReachableQ (s.mulUnits u v).1
  | div (s : QState) (u v : Nat) : ReachableQ s → u < s.reg.units.length →
      v < s.reg.units.length →
      (s.reg.unitCls u = s.reg.unitCls v → (s.reg.cls (s.reg.unitCls u)).refUnit.isSome = true) →
      ReachableQ (s.divUnits u v).1

/-- `a` and `b` differ at most in the operation cache -/
structure SameButCache (a b : RegState) : Prop where
  classes : a.classes = b.classes
  units : a.units = b.units
  symMap : a.symMap = b.symMap
  termMap : a.termMap = b.termMap
  clsMap : a.clsMap = b.clsMap

/-- the invariants that carry the C17 statements -/
structure HistInv (s : QState) : Prop where
  dir : DirInv s.reg
  scale : ScaleInv s.reg
  bounded : CacheBounded s.reg
  sound : CacheSound s.reg s.reg.nu

/-- a unit operation keeps the invariants: it changes nothing but the cache,
and what it stores is a sound entry between existing units -/
theorem histInv_unitOp (s : QState) (ih : HistInv s) (op : UOp) (u v : Nat)
    (hu : u < s.reg.units.length) (hv : v < s.reg.units.length)
    (href : op = .div → s.reg.unitCls u = s.reg.unitCls v →
      (s.reg.cls (s.reg.unitCls u)).refUnit.isSome = true) : HistInv (s.unitOp op u v).1 := by
  refine unitOp_cases (P := fun r => HistInv r.1) s op u v
    (hit := fun _ _ => ih) (failed := fun _ => ih)
    (fresh := fun ⟨f, w⟩ _ hr => ⟨dirInv_of_cache _ ih.dir, scaleInv_of_cache _ ih.scale, ?_,
      ih.sound.store (hr.sound (admissible_nu s.reg ih.scale) ih.dir.termMapSound href)⟩)
  intro op' a b f' w' hm
  simp only [List.mem_append, List.mem_singleton, Prod.mk.injEq] at hm
  rcases hm with hm | ⟨⟨_, rfl, rfl⟩, rfl, rfl⟩
  · exact ih.bounded op' a b f' w' hm
  · exact ⟨hu, hv, fun w' hw => Fresh.lt ih.dir (hw ▸ hr)⟩

theorem reachableQ_histInv {s : QState} (h : ReachableQ s) : HistInv s := by
  induction h with
  | init =>
    exact ⟨dirInv_init, scaleInv_init, fun _ _ _ _ _ hm => by simp [RegState.init] at hm,
      .of_empty rfl⟩
  | decl s d _ hwf ih =>
    obtain ⟨hb, hc⟩ := cache_after_decl (extends_applyDecl s.reg d) ih.bounded ih.sound
    exact ⟨dirInv_applyDecl s.reg d ih.dir, scaleInv_applyDecl s.reg d ih.scale hwf, hb, hc⟩
  | mul s u v _ hu hv ih => exact histInv_unitOp s ih .mul u v hu hv fun h => nomatch h
  | div s u v _ hu hv href ih => exact histInv_unitOp s ih .div u v hu hv fun _ => href

end QM
