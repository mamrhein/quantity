/-
The closed scale theorem: in every state reachable by well-formed
declarations, the scale stored for a unit (`_equiv`) is what its definition
denotes when every unit is given its own stored scale — the product of the
numeric factors along its chain of definitions down to the reference unit.
Also: the valuation "unit ↦ its stored scale" is admissible, so the
hypotheses of C02 / C10 / C17 are satisfiable in every such state.
-/
import QuantityModel.Proofs.TermShape
import QuantityModel.Proofs.Invariants
namespace QM

/-- valuation that gives every unit its stored scale (1 when it has none) -/
def RegState.nu (s : RegState) (u : Nat) : ℚ := ((s.unit u).equiv).getD 1

structure ScaleInv (s : RegState) : Prop where
  /-- no stored scale is zero -/
  nz : ∀ u, (s.unit u).equiv ≠ some 0
  /-- a base unit defines itself; it has no scale or (reference unit) scale 1 -/
  base : ∀ u, u < s.units.length → (s.unit u).defn = none →
    (s.unit u).normDef = [(.atom u, 1)] ∧ ((s.unit u).equiv = none ∨ (s.unit u).equiv = some 1)
  /-- a derived unit's normalised definition consists of an optional leading
  number and existing base units, and its scale is that number -/
  derived : ∀ u, u < s.units.length → (s.unit u).defn ≠ none →
    (∀ a ∈ atomsOf (s.unit u).normDef, a < s.units.length ∧ (s.unit a).defn = none) ∧
    TailAtoms (s.unit u).normDef ∧
    (s.unit u).equiv = some (numPart (s.unit u).normDef)
  /-- reference units exist and have scale 1 -/
  refs : ∀ c r, (s.cls c).refUnit = some r → r < s.units.length ∧ (s.unit r).equiv = some 1

theorem nu_of_equiv {s : RegState} {u : Nat} {x : ℚ} (h : (s.unit u).equiv = some x) :
    s.nu u = x := by
  unfold RegState.nu; rw [h]; rfl

theorem nu_base (s : RegState) (hS : ScaleInv s) (u : Nat) (hb : (s.unit u).defn = none) :
    s.nu u = 1 := by
  by_cases hu : u < s.units.length
  · rcases (hS.base u hu hb).2 with h | h
    · unfold RegState.nu; rw [h]; rfl
    · exact nu_of_equiv h
  · unfold RegState.nu; rw [unit_default s u (not_lt.mp hu)]; rfl

theorem admissible_nu (s : RegState) (hS : ScaleInv s) : Admissible s s.nu := by
  have vals : ValuesDefs s s.nu := by
    intro u
    by_cases hu : u < s.units.length
    · by_cases hd : (s.unit u).defn = none
      · rw [(hS.base u hu hd).1]; simp [evalElem]
      · obtain ⟨hat, htail, heq⟩ := hS.derived u hu hd
        rw [den_eq_numPart s.nu _ htail (fun a ha => nu_base s hS a (hat a ha).2), nu_of_equiv heq]
    · unfold RegState.nu
      rw [unit_default s u (not_lt.mp hu)]; rfl
  refine ⟨fun u h0 => ?_, fun a b f hf => ?_, fun a _ => unitEnv_normDef s a ▸ vals a, vals⟩
  · rcases h : (s.unit u).equiv with _ | x
    · simp [RegState.nu, h] at h0
    · exact hS.nz u (by rw [h, ← nu_of_equiv h, h0])
  · obtain ⟨_, _, sa, sb, ea, eb, rfl⟩ := (getFactor_unitEnv s a b f).mp hf
    rw [nu_of_equiv ea, nu_of_equiv eb, div_mul_cancel₀ _ fun h0 => hS.nz b (h0 ▸ eb)]

theorem defsBaseOnly_of_scaleInv (s : RegState) (hS : ScaleInv s) : DefsBaseOnly s.unitEnv := by
  intro a hb c hc
  rw [unitEnv_isBase] at hb
  rw [unitEnv_normDef] at hc
  have hd : (s.unit a).defn ≠ none := by intro h; rw [h] at hb; cases hb
  rw [unitEnv_isBase, ((hS.derived a (lt_of_ne_default (·.defn) hd) hd).1 c hc).2]; rfl

theorem numOrOne_eq (l : Items) (h : numPart l ≠ 0) : numOrOne l = numPart l := by
  unfold numOrOne
  rw [numPart_eq_numElem] at h ⊢
  cases hn : numElem l with
  | none => rfl
  | some n => rw [hn] at h; simp only [Option.getD_some] at h ⊢; rw [if_neg h]

/-- the normalised form of a definition over existing units consists of existing
base units and a leading number, which is what the definition denotes when
every unit is given its stored scale -/
theorem termNormalized_scale (s : RegState) (hS : ScaleInv s) (d : Items)
    (hvalid : ∀ a ∈ atomsOf d, a < s.units.length) :
    (∀ a ∈ atomsOf (termNormalized s.unitEnv d), a < s.units.length ∧ (s.unit a).defn = none) ∧
    numPart (termNormalized s.unitEnv d) = den s.nu d := by
  have hA := admissible_nu s hS
  have hdb := defsBaseOnly_of_scaleInv s hS
  have hatoms : ∀ a ∈ atomsOf (termNormalized s.unitEnv d),
      a < s.units.length ∧ (s.unit a).defn = none := by
    intro a ha
    have hbase := termNormalized_baseOnly s.unitEnv d hdb a ha
    rw [unitEnv_isBase, Option.isNone_iff_eq_none] at hbase
    refine ⟨?_, hbase⟩
    rcases termNormalized_atoms s.unitEnv d hdb a ha with h1 | ⟨b, hb, hbb, hab⟩
    · exact hvalid a h1
    · rw [unitEnv_isBase] at hbb
      rw [unitEnv_normDef] at hab
      have hd : (s.unit b).defn ≠ none := by intro h; rw [h] at hbb; cases hbb
      exact ((hS.derived b (hvalid b hb) hd).1 a hab).1
  refine ⟨hatoms, ?_⟩
  rw [← den_termNormalized s.unitEnv s.nu hA.nz hA.resp hA.defs d,
    den_eq_numPart s.nu _ (termNormalized_tailAtoms _ _) fun a ha => nu_base s hS a (hatoms a ha).2]

theorem MadeUnit.scale {s s' : RegState} {c uid : Nat} {sym : String} {d : Items} {isRef : Bool}
    (m : MadeUnit s c sym (some d) isRef s' uid) (hS : ScaleInv s)
    (hvalid : ∀ a ∈ atomsOf d, a < s.units.length) (hnz : den s.nu d ≠ 0)
    (href : isRef = true → den s.nu d = 1) : (s'.unit uid).equiv = some (den s.nu d) := by
  have hnum := (termNormalized_scale s hS d hvalid).2
  rw [m.equiv]
  cases isRef with
  | true => rw [href rfl]; rfl
  | false => rw [if_neg Bool.false_ne_true, Option.map_some, numOrOne_eq _ (hnum ▸ hnz), hnum]

/-- the stored scale of a new unit is what its definition denotes when every unit
is given its own stored scale, `factor · ∏ scale(uᵢ)^eᵢ`; its normalised
definition is a leading number and existing base units -/
theorem makeUnit_scale (s s' : RegState) (c : Nat) (sym : String) (d : Items) (uid : Nat)
    (h : s.makeUnit c sym (some d) false = .ok (s', uid)) (hS : ScaleInv s)
    (hvalid : ∀ a ∈ atomsOf d, a < s.units.length) (hnz : den s.nu d ≠ 0) :
    (s'.unit uid).equiv = some (den s.nu d) ∧
    (s'.unit uid).normDef = termNormalized s.unitEnv d ∧
    (∀ a ∈ atomsOf (s'.unit uid).normDef, a < s.units.length ∧ (s.unit a).defn = none) ∧
    TailAtoms (s'.unit uid).normDef ∧
    numPart (s'.unit uid).normDef = den s.nu d := by
  have m := makeUnit_effect h
  obtain ⟨hatoms, hnum⟩ := termNormalized_scale s hS d hvalid
  rw [m.normDef]
  exact ⟨m.scale hS hvalid hnz (by simp), rfl, hatoms, termNormalized_tailAtoms _ _, hnum⟩

theorem ScaleInv.transfer {s s' : RegState} (hS : ScaleInv s) (h : Same s s') : ScaleInv s' := by
  refine ⟨?_, ?_, ?_, ?_⟩
  · simp only [h.equiv]; exact hS.nz
  · simp only [h.len, h.defn, h.normDef, h.equiv]; exact hS.base
  · simp only [h.len, h.defn, h.normDef, h.equiv]; exact hS.derived
  · simp only [h.refs, h.len, h.equiv]; exact hS.refs

theorem scaleInv_init : ScaleInv RegState.init := by
  refine ⟨fun u h0 => Nat.not_lt_zero u
      (lt_of_ne_default (·.equiv) (h0 ▸ Option.some_ne_none 0)),
    fun u h => absurd h (Nat.not_lt_zero u), fun u h => absurd h (Nat.not_lt_zero u),
    fun c r hr => ?_⟩
  rw [(init_cls c).2] at hr; cases hr

/-- `_make_unit` preserves the scale invariant for well-formed definitions:
existing units only, not denoting zero, and (reference units) denoting 1 -/
theorem scaleInv_makeUnit {s s' : RegState} {c : Nat} {sym : String} {defn : Option Items}
    {isRef : Bool} {uid : Nat} (h : s.makeUnit c sym defn isRef = .ok (s', uid)) (hS : ScaleInv s)
    (hwf : ∀ d, defn = some d → (∀ a ∈ atomsOf d, a < s.units.length) ∧ den s.nu d ≠ 0 ∧
      (isRef = true → den s.nu d = 1)) :
    ScaleInv s' ∧ (isRef = true → (s'.unit uid).equiv = some 1) := by
  have m := makeUnit_effect h
  have old : ∀ {a}, a < s.units.length ∧ (s.unit a).defn = none →
      a < s'.units.length ∧ (s'.unit a).defn = none := m.keep (p := fun x => x.defn = none)
  -- what the invariant says of one unit: an old one, or the new one by kind of definition
  have hall : ∀ u, u < s'.units.length → (s'.unit u).equiv ≠ some 0 ∧
      ((s'.unit u).defn = none → (s'.unit u).normDef = [(.atom u, 1)] ∧
        ((s'.unit u).equiv = none ∨ (s'.unit u).equiv = some 1)) ∧
      ((s'.unit u).defn ≠ none →
        (∀ a ∈ atomsOf (s'.unit u).normDef, a < s'.units.length ∧ (s'.unit a).defn = none) ∧
        TailAtoms (s'.unit u).normDef ∧
        (s'.unit u).equiv = some (numPart (s'.unit u).normDef)) := by
    intro u hu
    rcases m.cases_lt hu with hu1 | rfl
    · rw [m.old u hu1]
      exact ⟨hS.nz u, hS.base u hu1, fun hd =>
        (hS.derived u hu1 hd).imp_left fun h1 a ha => old (h1 a ha)⟩
    rw [m.defn, m.normDef]
    cases defn with
    | none =>
      have he : (s'.unit u).equiv = none ∨ (s'.unit u).equiv = some 1 := by
        rw [m.equiv]; cases isRef <;> simp
      exact ⟨by rcases he with he | he <;> simp [he], fun _ => ⟨rfl, he⟩, fun hne => absurd rfl hne⟩
    | some d =>
      obtain ⟨hvalid, hnz, href⟩ := hwf d rfl
      obtain ⟨hatoms, hnum⟩ := termNormalized_scale s hS d hvalid
      rw [m.scale hS hvalid hnz href, Option.map_some, Option.getD_some, hnum]
      exact ⟨by simpa using hnz, nofun,
        fun _ => ⟨fun a ha => old (hatoms a ha), termNormalized_tailAtoms _ _, rfl⟩⟩
  refine ⟨⟨fun u h0 => ?_, fun u hu => (hall u hu).2.1, fun u hu => (hall u hu).2.2,
    fun c' r hr => ?_⟩, fun hr => by rw [m.equiv, hr]; rfl⟩
  · exact (hall u (lt_of_ne_default (·.equiv) (h0 ▸ Option.some_ne_none 0))).1 h0
  · rw [m.refs] at hr
    exact m.keep (p := fun x => x.equiv = some 1) (hS.refs c' r hr)

theorem scaleInv_of_cache {s : RegState} (c : List ((UOp × Nat × Nat) × (ℚ × Option Nat)))
    (h : ScaleInv s) : ScaleInv { s with opCache := c } :=
  ⟨h.nz, h.base, h.derived, h.refs⟩

theorem Same.nu {s s' : RegState} (h : Same s s') : s'.nu = s.nu :=
  funext fun u => congrArg (·.getD 1) (h.equiv u)

theorem ScaleInv.setRefUnit {s : RegState} (hS : ScaleInv s) {uid : Nat} (hlt : uid < s.units.length)
    (h1 : (s.unit uid).equiv = some 1) (cid : Nat) (m : List (Items × Nat)) :
    ScaleInv { s with classes := s.classes.modify cid fun c => { c with refUnit := some uid },
                      clsMap := m } :=
  ⟨hS.nz, hS.base, hS.derived, fun c r hr => by
    rw [cls_setRefUnit_refUnit] at hr
    split at hr
    · cases hr; exact ⟨hlt, h1⟩
    · exact hS.refs c r hr⟩

/-- well-formedness of a declaration's *arguments* in a state: definitions
mention existing units only and do not denote zero (the code accepts a zero
factor and then stores scale 1 — finding D10 — so the scale theorem excludes it) -/
def Decl.WF (s : RegState) : Decl → Prop
  | .cls _ => True
  | .newUnit _ _ (.qty a u) => a ≠ 0 ∧ u < s.units.length
  | .newUnit _ _ (.term t) => (∀ a ∈ atomsOf t, a < s.units.length) ∧ den s.nu t ≠ 0
  | .newUnit _ _ _ => True
  | .derive _ args _ => ∀ u ∈ args, u < s.units.length
  | .currency _ _ _ _ => True

theorem nu_ne_zero (s : RegState) (hS : ScaleInv s) (u : Nat) : s.nu u ≠ 0 :=
  (admissible_nu s hS).nz u

theorem den_ne_zero_of_atoms (ν : Nat → ℚ) (hν : NonZero ν) (l : Items)
    (hall : ∀ it ∈ l, (∃ a, it.1 = Elem.atom a) ∨ ∃ q, it.1 = Elem.num q ∧ q ≠ 0) : den ν l ≠ 0 := by
  induction l with
  | nil => simp
  | cons it rest ih =>
    rw [den_cons]
    refine mul_ne_zero (zpow_ne_zero _ ?_) (ih fun x hx => hall x (List.mem_cons_of_mem _ hx))
    rcases hall it (by simp) with ⟨a, ha⟩ | ⟨q, hq, hq0⟩
    · rw [ha]; exact hν a
    · rw [hq]; exact hq0

/-- the definition `new_unit` builds from a quantity `a · u` -/
theorem qtyDefn_wf (s : RegState) (hS : ScaleInv s) (a : Rat) (u : Nat) (hu : u < s.units.length) :
    (∀ x ∈ atomsOf (mkTerm s.unitEnv [(.num a, 1), (.atom u, 1)]), x < s.units.length) ∧
    den s.nu (mkTerm s.unitEnv [(.num a, 1), (.atom u, 1)]) = a * s.nu u := by
  have hA := admissible_nu s hS
  constructor
  · intro x hx
    have := mkTerm_atoms _ _ x hx
    simp only [atomsOf, List.filterMap_cons, List.filterMap_nil, List.mem_singleton] at this
    subst this; exact hu
  · rw [den_mkTerm _ s.nu hA.nz hA.resp]
    simp only [den_cons, den_nil, evalElem, zpow_one, mul_one]

/-- the definition `derive_unit_from` builds from units `args` and the
exponents of the class definition `cdef` -/
theorem deriveDefn_wf (s : RegState) (hS : ScaleInv s) (cdef : Items) (args : List Nat)
    (hv : ∀ u ∈ args, u < s.units.length) :
    (∀ a ∈ atomsOf (mkTerm s.unitEnv ((cdef.zip args).map fun (it, u) => (Elem.atom u, it.2))),
      a < s.units.length) ∧
    den s.nu (mkTerm s.unitEnv ((cdef.zip args).map fun (it, u) => (Elem.atom u, it.2))) =
      den s.nu ((cdef.zip args).map fun (it, u) => (Elem.atom u, it.2)) ∧
    den s.nu ((cdef.zip args).map fun (it, u) => (Elem.atom u, it.2)) ≠ 0 := by
  have hA := admissible_nu s hS
  refine ⟨?_, den_mkTerm _ s.nu hA.nz hA.resp _, ?_⟩
  · intro a ha
    have := mkTerm_atoms _ _ a ha
    rw [mem_atomsOf] at this
    obtain ⟨e, he⟩ := this
    simp only [List.mem_map, Prod.mk.injEq, Elem.atom.injEq] at he
    obtain ⟨⟨it, u⟩, hz, rfl, _⟩ := he
    exact hv u (List.of_mem_zip hz).2
  · apply den_ne_zero_of_atoms _ hA.nz
    intro it hit
    simp only [List.mem_map] at hit
    obtain ⟨⟨x, u⟩, _, rfl⟩ := hit
    left; exact ⟨u, rfl⟩

theorem scaleInv_newUnit (s : RegState) (c : Nat) (sym : Option String) (d : UnitDefArg)
    (hS : ScaleInv s) (hwf : Decl.WF s (.newUnit c sym d)) : ScaleInv (s.newUnit c sym d).1 := by
  refine newUnit_cases (P := fun r => ScaleInv r.1) s c sym d
    (rejected := fun _ => hS) (made := fun _ defn _ _ _ hdefn h => (scaleInv_makeUnit h hS ?_).1)
  intro dd hdd
  cases hdefn with
  | none => cases hdd
  | qty a u =>
    cases hdd
    obtain ⟨h1, h2⟩ := qtyDefn_wf s hS a u hwf.2
    exact ⟨h1, h2 ▸ mul_ne_zero hwf.1 (nu_ne_zero s hS u), by simp⟩
  | term t => cases hdd; exact ⟨hwf.1, hwf.2, by simp⟩

theorem scaleInv_deriveUnit (s : RegState) (c : Nat) (args : List Nat) (sym : Option String)
    (hS : ScaleInv s) (hwf : Decl.WF s (.derive c args sym)) :
    ScaleInv (s.deriveUnit c args sym).1 := by
  refine deriveUnit_cases (P := fun r => ScaleInv r.1) s c args sym
    (rejected := fun _ => hS) (made := fun cdef _ _ _ _ h => (scaleInv_makeUnit h hS ?_).1)
  intro dd hdd
  cases hdd
  obtain ⟨h1, h2, h3⟩ := deriveDefn_wf s hS cdef args hwf
  exact ⟨h1, h2 ▸ h3, by simp⟩

/-- the reference-unit definition of a derived class: a product of reference
units, hence of existing units of scale 1 -/
theorem refUnitDef_wf (s : RegState) (hS : ScaleInv s) (t : Items) :
    (∀ a ∈ atomsOf (s.refUnitDef t), a < s.units.length) ∧ den s.nu (s.refUnitDef t) = 1 := by
  have hA := admissible_nu s hS
  unfold RegState.refUnitDef
  generalize hl : List.filterMap id _ = l
  have hitems : ∀ it ∈ l, ∃ c u, (s.cls c).refUnit = some u ∧ it.1 = Elem.atom u := by
    intro it hit
    simp only [← hl, List.mem_filterMap, List.mem_map, id] at hit
    obtain ⟨_, ⟨x, -, rfl⟩, hx⟩ := hit
    split at hx
    · obtain ⟨u, hu, rfl⟩ := Option.map_eq_some_iff.mp hx
      exact ⟨_, u, hu, rfl⟩
    · cases hx
  have hat : ∀ a ∈ atomsOf l, a < s.units.length ∧ s.nu a = 1 := by
    intro a ha
    obtain ⟨e, he⟩ := mem_atomsOf.mp ha
    obtain ⟨c, u, hu, hb⟩ := hitems _ he
    cases hb
    exact ⟨(hS.refs c a hu).1, nu_of_equiv (hS.refs c a hu).2⟩
  refine ⟨fun a ha => (hat a (reduceItems_atoms _ _ _ _ a ha)).1, ?_⟩
  rw [den_reduceItems _ _ hA.nz hA.resp]
  exact den_atoms_one _ _ (fun it hit => let ⟨_, u, _, h⟩ := hitems it hit; ⟨u, h⟩)
    fun a ha => (hat a ha).2

theorem scaleInv_declClass (s : RegState) (d : ClassDecl) (hS : ScaleInv s) :
    ScaleInv (s.declClass d).1 := by
  refine declClass_cases (P := fun r => ScaleInv r.1) s d
    (rejected := fun _ => hS) (plain := fun _ => hS.transfer)
    (withRef := fun s1 _ _ rd _ uid hsame _ _ hrd h => ?_)
  obtain ⟨h2, h3⟩ := scaleInv_makeUnit h (hS.transfer hsame) (by
    intro dd hdd
    obtain ⟨t, rfl⟩ := hrd dd hdd
    obtain ⟨h1, h2⟩ := refUnitDef_wf s hS t
    rw [hsame.nu, h2, hsame.len]
    exact ⟨h1, one_ne_zero, fun _ => rfl⟩)
  exact h2.setRefUnit (makeUnit_effect h).lt (h3 rfl) _ _

theorem scaleInv_newCurrency (s : RegState) (mc : Nat) (sym : Option String) (mi : MinorArg)
    (sf : SfArg) (hS : ScaleInv s) : ScaleInv (s.newCurrency mc sym mi sf).1 :=
  newCurrency_cases (P := fun r => ScaleInv r.1) s mc sym mi sf
    (rejected := fun _ => hS)
    (made := fun _ frac s' uid _ _ h =>
      (scaleInv_makeUnit h hS (by simp)).1.transfer (.setFraction s' uid frac))

/-- states reachable by declarations whose definitions mention existing units
and do not denote zero -/
inductive ReachableWF : RegState → Prop where
  | init : ReachableWF RegState.init
  | step (s : RegState) (d : Decl) : ReachableWF s → d.WF s → ReachableWF (s.applyDecl d)

theorem ReachableWF.reachable {s : RegState} (h : ReachableWF s) : Reachable s := by
  induction h with
  | init => exact .init
  | step s d _ _ ih => exact .step s d ih

theorem scaleInv_applyDecl (s : RegState) (d : Decl) (h : ScaleInv s) (hwf : d.WF s) :
    ScaleInv (s.applyDecl d) := by
  cases d with
  | cls d => exact scaleInv_declClass s d h
  | newUnit c sym d => exact scaleInv_newUnit s c sym d h hwf
  | derive c args sym => exact scaleInv_deriveUnit s c args sym h hwf
  | currency mc sym mi sf => exact scaleInv_newCurrency s mc sym mi sf h

theorem reachableWF_scaleInv {s : RegState} (h : ReachableWF s) : ScaleInv s := by
  induction h with
  | init => exact scaleInv_init
  | step s d _ hwf ih => exact scaleInv_applyDecl s d ih hwf

end QM
