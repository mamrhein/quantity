/-
The free-abelian-group reading of a term: its rational factor (`numVal`) and,
for every element, the sum of the exponents it carries (`expOf`).

* the laws of reduction other than conversion preserve both, so reduction does,
  provided distinct elements of the list are not convertible into each other
  (`Rew.sem`, `sem_reduceItems`; true of lists of base elements: distinct base
  elements are reference units of different types or units of a type without
  reference unit);
* a reduced list is determined by them when distinct elements have distinct
  sort keys (`atomsNF_unique`).

Together: two terms have the same normal form **exactly when** they denote the
same rational factor and the same exponent for every base element.
-/
import QuantityModel.Proofs.TermNormal
namespace QM

def expOf (a : Nat) (items : Items) : Int :=
  (items.map fun it => match it.1 with
    | .atom b => if b = a then it.2 else 0
    | .num _ => 0).sum

def numVal (items : Items) : ℚ :=
  (items.map fun it => match it.1 with
    | .num q => q ^ it.2
    | .atom _ => 1).prod

def expOfA (a : Nat) (l : List (Nat × Int)) : Int :=
  (l.map fun p => if p.1 = a then p.2 else 0).sum

@[simp] theorem expOf_nil (a : Nat) : expOf a [] = 0 := rfl
@[simp] theorem numVal_nil : numVal [] = 1 := rfl
@[simp] theorem expOfA_nil (a : Nat) : expOfA a [] = 0 := rfl

@[simp] theorem expOf_cons_atom (a b : Nat) (e : Int) (r : Items) :
    expOf a ((Elem.atom b, e) :: r) = (if b = a then e else 0) + expOf a r := by
  simp [expOf]
@[simp] theorem expOf_cons_num (a : Nat) (q : Rat) (e : Int) (r : Items) :
    expOf a ((Elem.num q, e) :: r) = expOf a r := by
  simp [expOf]
@[simp] theorem numVal_cons_atom (b : Nat) (e : Int) (r : Items) :
    numVal ((Elem.atom b, e) :: r) = numVal r := by
  simp [numVal]
@[simp] theorem numVal_cons_num (q : Rat) (e : Int) (r : Items) :
    numVal ((Elem.num q, e) :: r) = q ^ e * numVal r := by
  simp [numVal]
@[simp] theorem expOfA_cons (a : Nat) (p : Nat × Int) (r : List (Nat × Int)) :
    expOfA a (p :: r) = (if p.1 = a then p.2 else 0) + expOfA a r := by
  simp [expOfA]

theorem expOf_append (a : Nat) (l₁ l₂ : Items) : expOf a (l₁ ++ l₂) = expOf a l₁ + expOf a l₂ := by
  simp [expOf]
theorem numVal_append (l₁ l₂ : Items) : numVal (l₁ ++ l₂) = numVal l₁ * numVal l₂ := by
  simp [numVal]

theorem expOf_perm (a : Nat) {l₁ l₂ : Items} (h : l₁.Perm l₂) : expOf a l₁ = expOf a l₂ := by
  unfold expOf; exact (h.map _).sum_eq
theorem numVal_perm {l₁ l₂ : Items} (h : l₁.Perm l₂) : numVal l₁ = numVal l₂ := by
  unfold numVal; exact (h.map _).prod_eq

theorem expOf_atomItems (a : Nat) (l : List (Nat × Int)) : expOf a (atomItems l) = expOfA a l := by
  simp [expOf, expOfA, atomItems, Function.comp_def]

theorem numVal_atomItems (l : List (Nat × Int)) : numVal (atomItems l) = 1 := by
  simp [numVal, atomItems, Function.comp_def]

theorem numVal_numPrefix_append (q : Rat) (l : List (Nat × Int)) :
    numVal (numPrefix q ++ atomItems l) = q := by
  rw [numVal_append, numVal_atomItems]
  unfold numPrefix
  split <;> simp_all

theorem expOf_numPrefix_append (a : Nat) (q : Rat) (l : List (Nat × Int)) :
    expOf a (numPrefix q ++ atomItems l) = expOfA a l := by
  rw [expOf_append, expOf_atomItems]
  unfold numPrefix
  split <;> simp

/-- The laws of reduction preserve the rational factor and every exponent when
they are applied to a list whose distinct elements are not convertible into
each other: the one law that does not, conversion, then never applies. -/
theorem Rew.sem {env : Env} {P : Nat → Prop}
    (hP : ∀ x y, P x → P y → x ≠ y → getFactor env y x = none) {l l' : Items}
    (h : Rew env l l') (hl : ∀ a ∈ atomsOf l, P a) :
    numVal l' = numVal l ∧ ∀ a, expOf a l' = expOf a l := by
  induction h with
  | perm h => exact ⟨(numVal_perm h).symm, fun a => (expOf_perm a h).symm⟩
  | trans h₁ _ ih₁ ih₂ =>
    have h₂ := ih₂ fun a ha => hl a (h₁.atoms a ha)
    exact ⟨h₂.1.trans (ih₁ hl).1, fun a => (h₂.2 a).trans ((ih₁ hl).2 a)⟩
  | append _ _ ih₁ ih₂ =>
    simp only [atomsOf_append, List.mem_append] at hl
    have h₁ := ih₁ fun a ha => hl a (.inl ha)
    have h₂ := ih₂ fun a ha => hl a (.inr ha)
    simp only [numVal_append, expOf_append, h₁, h₂, implies_true, and_self]
  | one => simp
  | @drop el e h => rcases h with rfl | rfl <;> [cases el; skip] <;> simp
  | num => simp [rpow_eq_zpow, mul_comm]
  | merge a e₁ e₂ =>
    exact ⟨by simp, fun b => by simp only [expOf_cons_atom, expOf_nil]; split <;> omega⟩
  | @conv a₁ a₂ c e₁ e₂ hne hc =>
    rw [hP a₁ a₂ (hl a₁ (by simp [atomsOf])) (hl a₂ (by simp [atomsOf])) hne] at hc
    cases hc

/-- every path of `_reduce_items` preserves the rational factor and the
exponent of every element, for lists of pairwise non-convertible elements -/
theorem sem_reduceItems (env : Env) (P : Nat → Prop)
    (hP : ∀ x y, P x → P y → x ≠ y → getFactor env y x = none)
    (items : Items) (hit : ∀ a ∈ atomsOf items, P a) (n : Option Nat) (keep : Bool) :
    numVal (reduceItems env items n keep) = numVal items ∧
    ∀ a, expOf a (reduceItems env items n keep) = expOf a items :=
  (rew_reduceItems env items n keep).sem hP hit

/-- filtering converts nothing, so the empty environment will do -/
theorem sem_filterItems (items : Items) :
    numVal (filterItems items) = numVal items ∧ ∀ a, expOf a (filterItems items) = expOf a items :=
  (rew_filterItems (env := ⟨[]⟩) items).sem (P := fun _ => True)
    (fun _ _ _ _ _ => getFactor_eq_none_of_scale (.inl rfl)) fun _ _ => trivial

theorem expOfA_of_not_mem (a : Nat) (l : List (Nat × Int)) (h : a ∉ l.map Prod.fst) :
    expOfA a l = 0 := by
  induction l with
  | nil => rfl
  | cons p r ih =>
    simp only [List.map_cons, List.mem_cons, not_or] at h
    rw [expOfA_cons, ih h.2, if_neg (fun hp => h.1 hp.symm)]; rfl

theorem mem_iff_expOfA {l : List (Nat × Int)} (hnd : (l.map Prod.fst).Nodup)
    (h0 : ∀ p ∈ l, p.2 ≠ 0) (a : Nat) (e : Int) : (a, e) ∈ l ↔ expOfA a l = e ∧ e ≠ 0 := by
  induction l with
  | nil => exact ⟨fun h => absurd h List.not_mem_nil, fun ⟨h, h'⟩ => absurd h.symm h'⟩
  | cons p r ih =>
    obtain ⟨b, f⟩ := p
    obtain ⟨hp, hr⟩ := List.nodup_cons.mp hnd
    obtain ⟨hp0, hr0⟩ := List.forall_mem_cons.mp h0
    rw [List.mem_cons, ih hr hr0, expOfA_cons]
    by_cases hba : b = a
    · subst hba
      rw [expOfA_of_not_mem _ _ hp]
      simp only [if_true, add_zero, Prod.mk.injEq, true_and]
      exact ⟨fun h => h.elim (fun h => ⟨h.symm, h ▸ hp0⟩) fun h => absurd h.1.symm h.2,
        fun h => .inl h.1.symm⟩
    · simp [hba, Ne.symm hba]

theorem atomsNF_unique (env : Env) (l₁ l₂ : List (Nat × Int))
    (h₁ : AtomsNF env l₁) (h₂ : AtomsNF env l₂)
    (hinj : ∀ p ∈ l₁, ∀ q ∈ l₂, keyOf env p.1 = keyOf env q.1 → p.1 = q.1)
    (hexp : ∀ a, expOfA a l₁ = expOfA a l₂) : l₁ = l₂ := by
  have nd₁ := nodup_fst_of_RNF env l₁ h₁.1
  have nd₂ := nodup_fst_of_RNF env l₂ h₂.1
  have hperm : l₁.Perm l₂ :=
    (List.perm_ext_iff_of_nodup (List.Nodup.of_map _ nd₁) (List.Nodup.of_map _ nd₂)).mpr
      fun ⟨a, e⟩ => by rw [mem_iff_expOfA nd₁ h₁.2, mem_iff_expOfA nd₂ h₂.2, hexp]
  refine List.Perm.eq_of_pairwise (le := RNF env) ?_ h₁.1 h₂.1 hperm
  intro p q hp hq hpq hqp
  have hk : keyOf env p.1 = keyOf env q.1 := le_antisymm hpq.1 hqp.1
  exact absurd (hinj p hp q hq hk) (hpq.2 hk).1

/-- distinct base elements are not convertible into each other (reference
units of different types; units of a type without reference unit) -/
def BaseNoConv (env : Env) : Prop :=
  ∀ x y, (env.info x).isBase = true → (env.info y).isBase = true → x ≠ y →
    getFactor env y x = none

/-- no two distinct base elements occurring in the (expanded) terms share a
sort key (fails when two distinct base units of one type occur: two units of a
type without reference unit — known finding D5 — or a reference unit and a
unit of its type declared without definition) -/
def KeysSeparate (env : Env) (t₁ t₂ : Items) : Prop :=
  ∀ x ∈ atomsOf (iterNormalized env normFuel t₁) ++ atomsOf (iterNormalized env normFuel t₂),
  ∀ y ∈ atomsOf (iterNormalized env normFuel t₁) ++ atomsOf (iterNormalized env normFuel t₂),
    keyOf env x = keyOf env y → x = y

/-- the expanded form of a term: numbers and base elements only -/
def expanded (env : Env) (t : Items) : Items := iterNormalized env normFuel t

theorem sem_normalizedItems (env : Env) (hd : DefsBaseOnly env) (hnc : BaseNoConv env) (t : Items) :
    numVal (normalizedItems env t) = numVal (expanded env t) ∧
      ∀ a, expOf a (normalizedItems env t) = expOf a (expanded env t) :=
  (rew_reduceGeneral env _ false).sem hnc (iterNormalized_baseOnly env _ t hd)

/-- **Two terms have the same normal form exactly when they denote the same
rational factor and the same exponent for every base element.** -/
theorem normalizedItems_eq_iff (env : Env) (hk : KeysNonneg env) (hd : DefsBaseOnly env)
    (hnc : BaseNoConv env) (t₁ t₂ : Items) (hinj : KeysSeparate env t₁ t₂) :
    normalizedItems env t₁ = normalizedItems env t₂ ↔
      (numVal (expanded env t₁) = numVal (expanded env t₂) ∧
       ∀ a, expOf a (expanded env t₁) = expOf a (expanded env t₂)) := by
  have h₁ := sem_normalizedItems env hd hnc t₁
  have h₂ := sem_normalizedItems env hd hnc t₂
  refine ⟨fun h => ⟨by rw [← h₁.1, ← h₂.1, h], fun a => by rw [← h₁.2 a, ← h₂.2 a, h]⟩, ?_⟩
  rintro ⟨hn, he⟩
  obtain ⟨q₁, l₁, e₁, nf₁, at₁⟩ := reduceGeneral_shape env hk (iterNormalized env normFuel t₁)
  obtain ⟨q₂, l₂, e₂, nf₂, at₂⟩ := reduceGeneral_shape env hk (iterNormalized env normFuel t₂)
  simp only [normalizedItems, e₁, e₂, numVal_numPrefix_append, expOf_numPrefix_append] at h₁ h₂ ⊢
  rw [h₁.1, h₂.1, hn, atomsNF_unique env l₁ l₂ nf₁ nf₂
    (fun p hp q hq => hinj _ (List.mem_append_left _ (at₁ p hp)) _ (List.mem_append_right _ (at₂ q hq)))
    fun a => by rw [h₁.2, h₂.2, he]]

theorem normalizedItems_fixed (env : Env) (hk : KeysNonneg env) (q : Rat) (l : List (Nat × Int))
    (hl : AtomsNF env l) (hb : ∀ p ∈ l, (env.info p.1).isBase = true) :
    normalizedItems env (numPrefix q ++ atomItems l) = numPrefix q ++ atomItems l := by
  have : BaseOnly env (numPrefix q ++ atomItems l) := by
    unfold BaseOnly; rw [atomsOf_numPrefix_append]; exact List.forall_mem_map.mpr hb
  unfold normalizedItems
  rw [iterNormalized_of_baseOnly env normFuel _ this, reduceGeneral_fixed env hk q l hl]

/-- what every constructed term satisfies: no zero exponent, no numeric 1 -/
def Clean (t : Items) : Prop := ∀ it ∈ t, it.2 ≠ 0 ∧ it.1 ≠ Elem.num 1

/-- the construction shortcut (`_normalized = self` for a single number with
exponent 1 or a single base element) agrees with full normalisation -/
theorem termNormalized_eq_normalizedItems (env : Env) (hk : KeysNonneg env) (t : Items)
    (hc : Clean t) : termNormalized env t = normalizedItems env t := by
  unfold termNormalized
  split
  · obtain ⟨q, rfl⟩ | ⟨a, e, rfl, hb⟩ := markedNormal_cases ‹_›
    · have hq : q ≠ 1 := fun h => (hc (.num q, 1) List.mem_cons_self).2 (by rw [h])
      simpa [numPrefix, hq, atomItems] using
        (normalizedItems_fixed env hk q [] ⟨.nil, by simp⟩ (by simp)).symm
    · simpa [numPrefix, atomItems] using (normalizedItems_fixed env hk 1 [(a, e)]
        ⟨List.pairwise_singleton _ _, by simpa using (hc _ List.mem_cons_self).1⟩ (by simpa using hb)).symm
  · rfl

/-- **Equality of terms is equality of what they denote** (for constructed
terms): same rational factor and same exponent for every base element. -/
theorem termEq_iff (env : Env) (hk : KeysNonneg env) (hd : DefsBaseOnly env)
    (hnc : BaseNoConv env) (t₁ t₂ : Items) (hinj : KeysSeparate env t₁ t₂)
    (h₁ : Clean t₁) (h₂ : Clean t₂) :
    termEq env t₁ t₂ = true ↔
      (numVal (expanded env t₁) = numVal (expanded env t₂) ∧
       ∀ a, expOf a (expanded env t₁) = expOf a (expanded env t₂)) := by
  unfold termEq
  rw [termNormalized_eq_normalizedItems env hk t₁ h₁,
    termNormalized_eq_normalizedItems env hk t₂ h₂]
  rw [← normalizedItems_eq_iff env hk hd hnc t₁ t₂ hinj]
  simp

instance (t : Items) : Decidable (Clean t) := by unfold Clean; infer_instance
instance (env : Env) (t₁ t₂ : Items) : Decidable (KeysSeparate env t₁ t₂) := by
  unfold KeysSeparate; infer_instance

end QM
