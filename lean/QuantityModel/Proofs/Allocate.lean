/-
`Quantity.allocate`: the model's sort of the rounding errors is
`List.insertionSort` by the lexicographic order of `ℚ ×ₗ ℕ`; the dispersal
loop, run over the sorted errors when they lie within one quantum and the
remainder is a whole number of quanta, ends with remainder zero and leaves
every error within one quantum (`disperse_spec`); the same at the level of
`finishAlloc`, for any portions on the grid within one quantum of their shares
(`finishAlloc_dispersed`); conservation of the total.
-/
import QuantityModel.Model.Allocate
import QuantityModel.Proofs.RoundingQ
import QuantityModel.Proofs.Lists
import Mathlib.Data.List.Sort
import Mathlib.Algebra.BigOperators.Ring.List
import Mathlib.Data.Prod.Lex
namespace QM

theorem sum_map_div (l : List ℚ) (c : ℚ) : (l.map (· / c)).sum = l.sum / c := by
  simp_rw [div_eq_mul_inv, List.sum_map_mul_right, List.map_id']

theorem sum_modify_add (l : List ℚ) (i : ℕ) (q : ℚ) (h : i < l.length) :
    (l.modify i (· + q)).sum = l.sum + q := by
  obtain ⟨l₁, a, l₂, rfl, -, e⟩ := List.exists_of_modify (· + q) h
  rw [e, List.sum_append, List.sum_append, List.sum_cons, List.sum_cons]; ring

/-! ### `sorted(errors, reverse=desc)` is Mathlib's insertion sort -/

abbrev errOrd (desc : Bool) (x y : ℚ × ℕ) : Prop := (if desc then errLe y x else errLe x y) = true

theorem sortErrs_eq (desc : Bool) (l : List (ℚ × ℕ)) :
    sortErrs desc l = l.insertionSort (errOrd desc) := by
  have ins (x) (l : List (ℚ × ℕ)) : insertErr desc x l = l.orderedInsert (errOrd desc) x := by
    induction l with
    | nil => rfl
    | cons y ys ih => simp only [insertErr, List.orderedInsert_cons, ih]
  induction l with
  | nil => rfl
  | cons x xs ih => rw [sortErrs, ins, ih, List.insertionSort_cons]

/-- Python's order of tuples is the lexicographic order of `ℚ ×ₗ ℕ`, a linear order -/
theorem errLe_iff (a b : ℚ × ℕ) : errLe a b = true ↔ toLex a ≤ toLex b := by
  simp [errLe, Prod.Lex.toLex_le_toLex]

theorem errOrd_false (a b : ℚ × ℕ) : errOrd false a b ↔ toLex a ≤ toLex b := by
  simp only [errOrd, Bool.false_eq_true, if_false, errLe_iff]

theorem errOrd_true (a b : ℚ × ℕ) : errOrd true a b ↔ toLex b ≤ toLex a := by
  simp only [errOrd, if_true, errLe_iff]

local instance (desc : Bool) : Std.Total (errOrd desc) := ⟨fun a b => by
  cases desc <;> simp only [errOrd_false, errOrd_true] <;> exact le_total _ _⟩

local instance (desc : Bool) : IsTrans _ (errOrd desc) := ⟨fun a b c => by
  cases desc <;> simp only [errOrd_false, errOrd_true]
  · exact le_trans
  · exact fun h k => le_trans k h⟩

theorem sortErrs_perm (desc : Bool) (l : List (ℚ × ℕ)) : (sortErrs desc l).Perm l :=
  sortErrs_eq desc l ▸ List.perm_insertionSort _ l

theorem sortErrs_mem (desc : Bool) (l : List (ℚ × ℕ)) (e : ℚ × ℕ) :
    e ∈ sortErrs desc l ↔ e ∈ l := (sortErrs_perm desc l).mem_iff

def sgn (desc : Bool) : ℚ := if desc then -1 else 1

/-- errors sorted so that `σ * error` ascends (σ = 1: ascending, σ = -1: descending) -/
def SortedBy (σ : ℚ) (R : List (ℚ × ℕ)) : Prop := R.Pairwise fun a b => σ * a.1 ≤ σ * b.1

theorem sortErrs_sorted (desc : Bool) (l : List (ℚ × ℕ)) : SortedBy (sgn desc) (sortErrs desc l) := by
  refine (sortErrs_eq desc l ▸ List.pairwise_insertionSort (errOrd desc) l).imp fun {a b} h => ?_
  cases desc <;> simp only [errOrd_false, errOrd_true, sgn, Bool.false_eq_true, if_false, if_true] at h ⊢ <;>
    linarith [(Prod.Lex.toLex_le_toLex'.1 h).1]

/-- the dispersal loop conserves `portions + remainder` as long as the indexes
it is given are valid -/
theorem disperse_conserves (q : ℚ) (errs : List (ℚ × ℕ)) (ps : List ℚ) (rem : ℚ)
    (h : ∀ e ∈ errs, e.2 < ps.length) :
    (disperse q errs ps rem).1.sum + (disperse q errs ps rem).2 = ps.sum + rem ∧
    (disperse q errs ps rem).1.length = ps.length := by
  induction errs generalizing ps rem with
  | nil => simp [disperse]
  | cons e rest ih =>
    have hidx := h e (by simp)
    have e1 := sum_modify_add ps e.2 q hidx
    unfold disperse
    dsimp only
    split
    · exact ⟨by rw [e1]; ring, by simp⟩
    · obtain ⟨h1, h2⟩ := ih (ps.modify e.2 (· + q)) (rem - q) fun x hx => by
        rw [List.length_modify]; exact h x (List.mem_cons_of_mem _ hx)
      exact ⟨by rw [h1, e1]; ring, by rw [h2, List.length_modify]⟩

/-- rounding to the grid moves an amount by less than one quantum (at most
half under the half modes) -/
theorem toGrid_bound (d : Rounding) (q x : ℚ) (hq : q ≠ 0) :
    |toGrid d (some q) x - x| < |q| ∧ (d.isHalf = true → |toGrid d (some q) x - x| ≤ |q| / 2) := by
  unfold toGrid
  rw [abs_sub_comm]
  exact roundQ_grid_bound d x q hq

/-- The dispersal lemma: walking the sorted errors and moving one (signed)
quantum per step ends with remainder 0 and leaves every portion less than one
quantum from its share.  `σ * error` ascends; the errors lie in `(-q, q)` and
their `σ`-multiples sum to at most `-m * q`, so the first one is negative and
moving it by `σ * q` keeps it inside; what is left sums to at most `-(m - 1) * q`. -/
theorem disperse_spec (q σ : ℚ) (hq : 0 < q) (hσ : σ = 1 ∨ σ = -1) (shares : List ℚ)
    (R : List (ℚ × ℕ)) (ps : List ℚ) (m : ℕ) (hm : 1 ≤ m)
    (hsorted : SortedBy σ R)
    (hnodup : (R.map Prod.snd).Nodup)
    (hR : ∀ x ∈ R, x.2 < ps.length ∧ x.1 = ps.getD x.2 0 - shares.getD x.2 0)
    (hsum : (R.map fun x => σ * x.1).sum ≤ -((m : ℚ) * q))
    (hbound : ∀ i, i < ps.length → |ps.getD i 0 - shares.getD i 0| < q) :
    (disperse (σ * q) R ps (σ * (m * q))).2 = 0 ∧
    (disperse (σ * q) R ps (σ * (m * q))).1.length = ps.length ∧
    ∀ i, i < ps.length →
      |(disperse (σ * q) R ps (σ * (m * q))).1.getD i 0 - shares.getD i 0| < q := by
  obtain ⟨m, rfl⟩ : ∃ k, m = k + 1 := ⟨m - 1, by omega⟩
  clear hm
  induction R generalizing ps m with
  | nil =>
    have : (0 : ℚ) < (m + 1 : ℕ) * q := by positivity
    simp only [List.map_nil, List.sum_nil] at hsum
    linarith
  | cons x rest ih =>
    obtain ⟨e, idx⟩ := x
    obtain ⟨hidx, he⟩ := hR (e, idx) (by simp)
    obtain ⟨hmin, hsorted'⟩ := List.pairwise_cons.1 hsorted
    obtain ⟨hnotin, hnodup'⟩ : idx ∉ rest.map Prod.snd ∧ _ := List.nodup_cons.1 hnodup
    simp only [List.map_cons, List.sum_cons] at hsum
    have hb := abs_lt.1 (he ▸ hbound idx hidx)
    -- the head has the smallest σ·error; were it ≥ 0, the sum would be ≥ 0
    have hneg : σ * e < 0 := by
      by_contra hc
      have := List.sum_nonneg (l := rest.map fun x => σ * x.1) fun y hy => by
        obtain ⟨z, hz, rfl⟩ := List.mem_map.1 hy
        exact (not_lt.1 hc).trans (hmin z hz)
      have : (0 : ℚ) < (m + 1 : ℕ) * q := by positivity
      linarith
    -- the moved portion stays within a quantum, the others are as before
    have hbound' : ∀ i, i < (ps.modify idx (· + σ * q)).length →
        |(ps.modify idx (· + σ * q)).getD i 0 - shares.getD i 0| < q := fun i hi => by
      rw [List.length_modify] at hi
      simp only [getD_modify, hi, and_true]
      split
      · subst i
        rw [add_sub_right_comm, ← he, abs_lt]
        rcases hσ with rfl | rfl <;> constructor <;> linarith
      · exact hbound i hi
    have hrem : σ * ((m + 1 : ℕ) * q) - σ * q = σ * (m * q) := by push_cast; ring
    unfold disperse
    simp only [hrem]
    cases m with
    | zero => simpa using hbound'
    | succ m =>
      have hσ0 : σ ≠ 0 := by rcases hσ with rfl | rfl <;> norm_num
      rw [if_neg (mul_ne_zero hσ0 (by positivity))]
      have := ih (ps.modify idx (· + σ * q)) hsorted' hnodup' (fun y hy => by
          obtain ⟨h1, h2⟩ := hR y (List.mem_cons_of_mem _ hy)
          have hne : idx ≠ y.2 := fun hh => hnotin (hh ▸ List.mem_map_of_mem hy)
          rw [List.length_modify, getD_modify, if_neg fun h => hne h.1]
          exact ⟨h1, h2⟩)
        hbound' m (by push_cast at hsum ⊢; rcases hσ with rfl | rfl <;> linarith)
      simpa only [List.length_modify] using this

def shares (A : ℚ) (ratios : List ℚ) : List ℚ := ratios.map fun r => A * (r / ratios.sum)

theorem getD_map_lt {f : ℚ → ℚ} {l : List ℚ} {i : ℕ} (hi : i < l.length) :
    (l.map f).getD i 0 = f (l.getD i 0) := by
  simp [List.getD_eq_getElem?_getD, hi]

theorem length_shares (A : ℚ) (ratios : List ℚ) : (shares A ratios).length = ratios.length :=
  List.length_map _

theorem getD_shares (A : ℚ) {ratios : List ℚ} {i : ℕ} (hi : i < ratios.length) :
    (shares A ratios).getD i 0 = A * (ratios.getD i 0 / ratios.sum) :=
  getD_map_lt hi

theorem sum_shares (A : ℚ) {ratios : List ℚ} (ht : ratios.sum ≠ 0) : (shares A ratios).sum = A := by
  rw [shares, List.sum_map_mul_left, sum_map_div, div_self ht, mul_one]

theorem allocPortions_eq (d : Rounding) (A : ℚ) (quantum : Option ℚ) (ratios : List ℚ) :
    allocPortions d A quantum ratios = (shares A ratios).map (toGrid d quantum) := by
  simp [allocPortions, shares]

theorem allocErrs_eq (A : ℚ) (ratios P : List ℚ) (hlen : P.length = ratios.length) :
    allocErrs A ratios P =
      (List.range P.length).map fun i => (P.getD i 0 - (shares A ratios).getD i 0, i) := by
  refine List.map_congr_left fun i hi => ?_
  have hi' : i < ratios.length := hlen ▸ List.mem_range.1 hi
  rw [getD_shares A hi', getD_map_lt hi']

theorem sum_range_sub (ps fs : List ℚ) (h : ps.length = fs.length) :
    ((List.range ps.length).map fun i => ps.getD i 0 - fs.getD i 0).sum = ps.sum - fs.sum := by
  induction ps generalizing fs with
  | nil => cases fs <;> simp at h ⊢
  | cons p ps ih =>
    cases fs with
    | nil => simp at h
    | cons f fs =>
      rw [List.length_cons, List.range_succ_eq_map]
      simp only [List.map_cons, List.getD_cons_zero, List.map_map, List.sum_cons, Function.comp_def,
        List.getD_cons_succ]
      rw [ih fs (Nat.succ.inj h)]; ring

/-- the errors listed by the code sum to `Σ portions − A` -/
theorem sum_allocErrs (A : ℚ) (ratios portions : List ℚ) (ht : ratios.sum ≠ 0)
    (hlen : portions.length = ratios.length) :
    ((allocErrs A ratios portions).map Prod.fst).sum = portions.sum - A := by
  rw [allocErrs_eq A ratios portions hlen, List.map_map]
  exact (sum_range_sub _ _ (by rw [length_shares, hlen])).trans (by rw [sum_shares A ht])

theorem sum_multiple_of (q : ℚ) (l : List ℚ) (h : ∀ x ∈ l, ∃ k : ℤ, x = k * q) :
    ∃ K : ℤ, l.sum = K * q := by
  induction l with
  | nil => exact ⟨0, by simp⟩
  | cons x xs ih =>
    obtain ⟨k, hk⟩ := h x (by simp)
    obtain ⟨K, hK⟩ := ih (fun y hy => h y (List.mem_cons_of_mem _ hy))
    exact ⟨k + K, by rw [List.sum_cons, hk, hK]; push_cast; ring⟩

/-- a non-zero whole number of quanta, as sign and count -/
theorem exists_sgn_mul {q : ℚ} (hq : 0 < q) {j : ℤ} (hj : j ≠ 0) :
    ∃ m : ℕ, (j : ℚ) * q = sgn (decide ((j : ℚ) * q < 0)) * ((m + 1 : ℕ) * q) := by
  rcases lt_or_gt_of_ne hj with h | h
  · obtain ⟨n, rfl⟩ : ∃ n : ℕ, j = -(n + 1 : ℕ) := ⟨(-j - 1).toNat, by omega⟩
    have : ((-(n + 1 : ℕ) : ℤ) : ℚ) * q < 0 := mul_neg_of_neg_of_pos (by exact_mod_cast h) hq
    exact ⟨n, by simp only [this, decide_true, sgn, if_true]; push_cast; ring⟩
  · obtain ⟨n, rfl⟩ : ∃ n : ℕ, j = (n + 1 : ℕ) := ⟨(j - 1).toNat, by omega⟩
    have : ¬ (((n + 1 : ℕ) : ℤ) : ℚ) * q < 0 := not_lt.2 (by positivity)
    exact ⟨n, by simp only [this, decide_false, sgn, Bool.false_eq_true, if_false]; push_cast; ring⟩

/-- From ANY portions on the grid, each less than one quantum from its share,
the second phase of `allocate` ends with remainder zero and every portion still
less than one quantum from its share. -/
theorem finishAlloc_dispersed {A q : ℚ} (hq : 0 < q) {kA : ℤ} (hA : A = kA * q)
    {ratios P : List ℚ} (ht : ratios.sum ≠ 0) (hlen : P.length = ratios.length)
    (hgrid : ∀ x ∈ P, ∃ k : ℤ, x = k * q)
    (hbound : ∀ i, i < P.length → |P.getD i 0 - (shares A ratios).getD i 0| < q)
    {ps : List ℚ} {rem : ℚ} (h : finishAlloc A (some q) ratios P true = .ok (ps, rem)) :
    rem = 0 ∧ ps.length = P.length ∧
    ∀ i, i < P.length → |ps.getD i 0 - (shares A ratios).getD i 0| < q := by
  unfold finishAlloc at h
  dsimp only at h
  by_cases hrem : A - P.sum = 0
  · rw [if_pos hrem] at h
    cases h
    exact ⟨rfl, rfl, hbound⟩
  rw [if_neg hrem, if_pos rfl] at h
  -- the remainder is a non-zero whole number of quanta
  obtain ⟨K, hK⟩ := sum_multiple_of q P hgrid
  have hj : A - P.sum = ((kA - K : ℤ) : ℚ) * q := by rw [hA, hK]; push_cast; ring
  obtain ⟨m, hm⟩ := exists_sgn_mul hq (j := kA - K) fun h0 => hrem (by rw [hj, h0]; simp)
  rw [← hj] at hm
  have hc : (if A - P.sum < 0 then -q else q) = sgn (decide (A - P.sum < 0)) * q := by
    by_cases hn : A - P.sum < 0 <;> simp [sgn, hn]
  rw [hc] at h
  generalize decide (A - P.sum < 0) = desc at h hm
  rw [hm] at h
  have hσ : sgn desc = 1 ∨ sgn desc = -1 := by cases desc <;> simp [sgn]
  have hperm := sortErrs_perm desc (allocErrs A ratios P)
  have := disperse_spec q (sgn desc) hq hσ (shares A ratios) _ P (m + 1) m.succ_pos
    (sortErrs_sorted desc _)
    ((hperm.map Prod.snd).nodup_iff.2 (by
      simpa [allocErrs, Function.comp_def] using List.nodup_range))
    (fun x hx => by
      rw [hperm.mem_iff, allocErrs_eq A ratios P hlen] at hx
      obtain ⟨i, hi, rfl⟩ := List.mem_map.1 hx
      exact ⟨List.mem_range.1 hi, rfl⟩)
    (by
      have hσ2 : sgn desc * sgn desc = 1 := by rcases hσ with h | h <;> rw [h] <;> norm_num
      rw [List.sum_map_mul_left, (hperm.map Prod.fst).sum_eq,
        sum_allocErrs A ratios P ht hlen, ← neg_sub, hm, mul_neg, ← mul_assoc, hσ2, one_mul])
    hbound
  rwa [Except.ok.inj h] at this

theorem finish_conserves (A : ℚ) (quantum : Option ℚ) (ratios portions : List ℚ) (disp : Bool)
    (ps : List ℚ) (rem : ℚ) (h : finishAlloc A quantum ratios portions disp = .ok (ps, rem)) :
    ps.sum + rem = A ∧ ps.length = portions.length := by
  unfold finishAlloc at h
  by_cases hrem : A - portions.sum = 0
  · rw [if_pos hrem] at h
    cases h
    exact ⟨by linarith, rfl⟩
  rw [if_neg hrem] at h
  cases quantum with
  | none => cases h
  | some q =>
    dsimp only at h
    cases disp
    · rw [if_neg Bool.false_ne_true] at h
      cases h
      exact ⟨by ring, rfl⟩
    · rw [if_pos rfl] at h
      generalize (if A - portions.sum < 0 then -q else q) = c at h
      generalize decide (A - portions.sum < 0) = desc at h
      have := disperse_conserves c (sortErrs desc (allocErrs A ratios portions)) portions
        (A - portions.sum) fun e he => by
          rw [sortErrs_mem] at he
          obtain ⟨i, hi, rfl⟩ := List.mem_map.1 he
          exact List.mem_range.1 hi
      rw [Except.ok.inj h] at this
      exact ⟨by linarith [this.1], this.2⟩

theorem abs_sum_sub_sum_map_le (g : ℚ → ℚ) (b : ℚ) (h : ∀ s, |s - g s| ≤ b) (l : List ℚ) :
    |l.sum - (l.map g).sum| ≤ l.length * b := by
  induction l with
  | nil => simp
  | cons s rest ih =>
    have e : (s :: rest).sum - ((s :: rest).map g).sum = (s - g s) + (rest.sum - (rest.map g).sum) := by
      simp; ring
    rw [e, List.length_cons, Nat.cast_succ, add_one_mul]
    exact (abs_add_le _ _).trans (by linarith [h s])

end QM
