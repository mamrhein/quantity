/-
The magnitude ⌊log10 x⌋ of the exchange-rate model is what its name says:
`10 ^ magnitude x ≤ x < 10 ^ (magnitude x + 1)` for every positive `x` within
the fuel of the two search loops (`10⁻⁴⁰⁰⁰ ≤ x < 10⁴⁰⁰⁰`).
-/
import QuantityModel.Model.Rate
import QuantityModel.Proofs.Rpow
import Mathlib.Data.Nat.Log
import Mathlib.Data.Rat.Floor
namespace QM

theorem ilog10Nat_eq_log (fuel n : ℕ) (hf : n < 10 ^ fuel) : ilog10Nat fuel n = Nat.log 10 n := by
  induction fuel generalizing n with
  | zero => simp [show n = 0 by simpa using hf, ilog10Nat]
  | succ f ih =>
    unfold ilog10Nat
    split
    · exact (Nat.log_of_lt ‹_›).symm
    · rw [ih _ (by rw [pow_succ] at hf; omega),
        Nat.log_of_one_lt_of_le (n := n) (by norm_num) (not_lt.1 ‹_›)]

/-- The search below one, started at `k` with `y = x * 10 ^ k`: the result `r`
satisfies `10 ^ r ≤ x < 10 ^ (r + 1)`. -/
theorem magGo_bounds (fuel k : ℕ) (y : ℚ) (h1 : y < 1) (hf : 1 ≤ y * 10 ^ fuel) :
    (10 : ℚ) ^ (magnitude.go fuel k y + k) ≤ y ∧ y < 10 ^ (magnitude.go fuel k y + k + 1) := by
  induction fuel generalizing k y with
  | zero => simp at hf; linarith
  | succ f ih =>
    unfold magnitude.go
    split
    · rw [show -((k : ℤ) + 1) + k = -1 by ring, zpow_neg_one, neg_add_cancel, zpow_zero,
        inv_le_iff_one_le_mul₀ (by norm_num)]
      exact ⟨‹_›, h1⟩
    · obtain ⟨a, b⟩ := ih (k + 1) (y * 10) (not_le.1 ‹_›) (by rw [pow_succ] at hf; linarith)
      rw [Nat.cast_succ, ← add_assoc, zpow_add_one₀ (by norm_num)] at a b
      exact ⟨le_of_mul_le_mul_right a (by norm_num), lt_of_mul_lt_mul_right b (by norm_num)⟩

/-- the integer part as the model computes it -/
theorem toNat_div_den (x : ℚ) (h : 0 ≤ x) : x.num.toNat / x.den = ⌊x⌋₊ := by
  have e : ((x.num.toNat : ℕ) : ℚ) / x.den = x := by
    rw [← Int.cast_natCast (R := ℚ), Int.toNat_of_nonneg (Rat.num_nonneg.2 h), Rat.num_div_den]
  rw [← Rat.natFloor_natCast_div_natCast, e]

theorem magnitude_nonneg {x : ℚ} (h : 1 ≤ x) : 0 ≤ magnitude x := by
  unfold magnitude; simp [h]

section
variable {x : ℚ} (h0 : 0 < x) (hlo : 1 ≤ x * 10 ^ 4000) (hhi : x < 10 ^ 4000)
include h0 hlo hhi

theorem magnitude_bounds : (10 : ℚ) ^ magnitude x ≤ x ∧ x < 10 ^ (magnitude x + 1) := by
  unfold magnitude
  split
  · -- `10 ^ log ⌊x⌋₊ ≤ ⌊x⌋₊ ≤ x < ⌊x⌋₊ + 1 ≤ 10 ^ (log ⌊x⌋₊ + 1)`
    have fl := Nat.floor_le h0.le
    rw [toNat_div_den x h0.le, ilog10Nat_eq_log _ _ (by exact_mod_cast fl.trans_lt hhi),
      ← Nat.cast_add_one, zpow_natCast, zpow_natCast]
    exact ⟨le_trans (by exact_mod_cast Nat.pow_log_le_self 10 (Nat.floor_pos.2 ‹_›).ne') fl,
      (Nat.lt_floor_add_one x).trans_le
        (by exact_mod_cast Nat.succ_le_of_lt (Nat.lt_pow_succ_log_self (by norm_num) _))⟩
  · simpa using magGo_bounds 4000 0 x (not_le.1 ‹_›) hlo

theorem magnitude_eq {k : ℤ} (h1 : (10 : ℚ) ^ k ≤ x) (h2 : x < 10 ^ (k + 1)) : magnitude x = k := by
  obtain ⟨a, b⟩ := magnitude_bounds h0 hlo hhi
  have := (zpow_lt_zpow_iff_right₀ (by norm_num : (1 : ℚ) < 10)).1 (a.trans_lt h2)
  have := (zpow_lt_zpow_iff_right₀ (by norm_num : (1 : ℚ) < 10)).1 (h1.trans_lt b)
  omega

end

/-- **the magnitude is ⌊log10 x⌋** -/
theorem magnitude_spec (x : ℚ) (h0 : 0 < x) (hlo : 1 ≤ x * 10 ^ 4000) (hhi : x < 10 ^ 4000) :
    rpow 10 (magnitude x) ≤ x ∧ x < rpow 10 (magnitude x + 1) := by
  simp only [rpow_eq_zpow]
  exact magnitude_bounds h0 hlo hhi

theorem magnitude_pow10 {j : ℕ} (hj : j < 4000) : magnitude ((10 : ℚ) ^ j) = j :=
  magnitude_eq (by positivity) (one_le_mul_of_one_le_of_one_le (one_le_pow₀ (by norm_num))
    (one_le_pow₀ (by norm_num))) (pow_lt_pow_right₀ (by norm_num) hj)
    (by rw [zpow_natCast]) (by rw [← zpow_natCast]; exact zpow_lt_zpow_right₀ (by norm_num) (by omega))

end QM
