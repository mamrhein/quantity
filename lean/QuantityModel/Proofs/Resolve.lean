/-
Completeness of the resolution of unit terms (`_amnt_and_unit_from_term`):
whenever the directory holds a unit whose normalised definition has factor 1
and the exponents the term denotes - for a type with reference unit: its
reference unit, i.e. whenever a TYPE of the combined dimension is declared -
the resolution succeeds.  (With another factor only, the second look-up misses:
known finding D2.)
-/
import QuantityModel.Proofs.RegistryTerm
namespace QM

theorem termNormalized_of_fixed (env : Env) (K : Items) (h : normalizedItems env K = K) :
    termNormalized env K = K := by
  unfold termNormalized
  split
  · rfl
  · exact h

/-- a normal form without numeric factor is a list of atoms -/
theorem fixed_shape (env : Env) (hk : KeysNonneg env) (K : Items)
    (hKnf : normalizedItems env K = K) (hK1 : numVal K = 1) :
    ∃ l, K = atomItems l ∧ AtomsNF env l ∧
      ∀ p ∈ l, p.1 ∈ atomsOf (iterNormalized env normFuel K) := by
  obtain ⟨q, l, e, nf, hat⟩ := reduceGeneral_shape env hk (iterNormalized env normFuel K)
  have e' : K = numPrefix q ++ atomItems l := hKnf.symm.trans e
  obtain rfl : q = 1 := by rw [e', numVal_numPrefix_append] at hK1; exact hK1
  exact ⟨l, by simpa [numPrefix] using e', nf, hat⟩

/-- uniqueness of the normal form up to the factor: a term that denotes the
exponents of a factor-free normal form `K` normalises to `K` with a number in
front; and `Term(K)` is `K` again -/
theorem normalized_of_key (env : Env) (hk : KeysNonneg env) (hd : DefsBaseOnly env)
    (hnc : BaseNoConv env) (t : Items) (ht : Clean t) (K : Items)
    (hKnf : normalizedItems env K = K) (hK1 : numVal K = 1) (hsep : KeysSeparate env t K)
    (hexp : ∀ a, expOf a (expanded env t) = expOf a K) :
    mkTerm env K = K ∧ ∃ q, termNormalized env t = numPrefix q ++ K := by
  obtain ⟨l', rfl, nf', hat'⟩ := fixed_shape env hk K hKnf hK1
  obtain ⟨q, l, e, nf, hat⟩ := reduceGeneral_shape env hk (iterNormalized env normFuel t)
  obtain rfl : l = l' := by
    refine atomsNF_unique env l l' nf nf' (fun p hp p' hp' => hsep p.1
      (List.mem_append_left _ (hat p hp)) p'.1 (List.mem_append_right _ (hat' p' hp'))) fun a => ?_
    have h1 := (sem_normalizedItems env hd hnc t).2 a
    rw [normalizedItems, e, expOf_numPrefix_append] at h1
    rw [h1, hexp a, expOf_atomItems]
  have hbo := normalizedItems_baseOnly env (atomItems l) hd
  rw [hKnf, BaseOnly, atomsOf_atomItems] at hbo
  exact ⟨mkTerm_fixed env hk l nf fun p hp q hq =>
      hnc p.1 q.1 (hbo _ (List.mem_map_of_mem hp)) (hbo _ (List.mem_map_of_mem hq)),
    q, (termNormalized_eq_normalizedItems env hk t ht).trans e⟩

/-- **Completeness of the resolution.**  `K` is the key of a registered unit
(`(K, w) ∈ termMap`), a normal form with factor 1, and has the
exponents the term `t` denotes: then resolving `t` succeeds. -/
theorem amntAndUnit_complete (r : RegState)
    (hd : DefsBaseOnly r.unitEnv) (hnc : BaseNoConv r.unitEnv)
    (t : Items) (ht : Clean t) (K : Items) (w : Nat) (hK : (K, w) ∈ r.termMap)
    (hKnf : normalizedItems r.unitEnv K = K)
    (hK1 : numVal K = 1) (hsep : KeysSeparate r.unitEnv t K)
    (hexp : ∀ a, expOf a (expanded r.unitEnv t) = expOf a K) :
    r.amntAndUnit t ≠ none := by
  obtain ⟨hKmk, q, hN⟩ :=
    normalized_of_key _ (keysNonneg_unitEnv r) hd hnc t ht K hKnf hK1 hsep hexp
  have hKn := termNormalized_of_fixed r.unitEnv K hKnf
  have hfound : r.termMap.lookup K ≠ none := fun h => lookup_none_not_mem' _ _ h w hK
  -- had the resolution failed, neither look-up would have found the key
  refine amntAndUnit_cases (P := (· ≠ none)) r t (direct := fun _ _ => nofun)
    (number := fun _ => nofun) (scaled := fun _ _ => nofun) (failed := fun h1 h2 => ?_)
  unfold numPrefix at hN
  split at hN
  · -- a numeric factor in front: the second look-up, for the term without it, meets `K`
    have hrest : (splitTerm r.unitEnv ((Elem.num q, 1) :: K)).2 = K := hKmk
    rw [hN, List.singleton_append, hrest] at h2
    rcases h2 with h2 | h2
    · unfold termEq at h2
      rw [hKn, hN] at h2
      simp at h2
    · rw [RegState.unitFromTerm, hKn] at h2
      exact absurd h2 hfound
  · -- no numeric factor: the normal form IS the registered key
    rw [RegState.unitFromTerm, hN, List.nil_append] at h1
    exact absurd h1 hfound

end QM
