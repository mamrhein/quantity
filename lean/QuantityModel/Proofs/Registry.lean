/-
The registry seen through `RegState.unit`, `RegState.cls` and the directories:
what each primitive update does to them, and the shape of every declaration —
it either returns the state it started from with an error, or its result is a
specific composition of `_make_unit` and updates that no invariant reads
(`Same`), plus, for a class with reference unit, the entry of that unit into
its class.  Every case analysis of `declClass`, `newUnit`, `deriveUnit` and
`newCurrency` that an invariant needs is done here, once.
-/
import QuantityModel.Proofs.Term
import QuantityModel.Proofs.Lists
import QuantityModel.Model.Money
import Mathlib.Data.List.GetD
namespace QM

theorem unit_default (s : RegState) (u : Nat) (h : s.units.length ≤ u) : s.unit u = default :=
  List.getD_eq_default _ _ h

theorem cls_default (s : RegState) (c : Nat) (h : s.classes.length ≤ c) : s.cls c = default :=
  List.getD_eq_default _ _ h

theorem init_cls (c : Nat) :
    (RegState.init.cls c).units = [] ∧ (RegState.init.cls c).refUnit = none := by
  rcases c with _ | c
  · exact ⟨rfl, rfl⟩
  · rw [cls_default _ _ (Nat.le_add_left 1 c)]; exact ⟨rfl, rfl⟩

theorem unit_append_old (us : List UnitInfo) (x : UnitInfo) (w : Nat) (h : w < us.length) :
    (us ++ [x]).getD w default = us.getD w default :=
  List.getD_append _ _ _ _ h

theorem unit_append_new (us : List UnitInfo) (x : UnitInfo) :
    (us ++ [x]).getD us.length default = x := by
  simp [List.getD_eq_getElem?_getD]

/-- What the term algebra sees of unit `u`, registered or not, is read off
`s.unit u`; only the sort key of an unregistered number (the default, 1) is not. -/
theorem unitEnv_info_total (s : RegState) (u : Nat) :
    s.unitEnv.info u =
      { key := if u < s.units.length then ((s.unit u).cls : Int) else 1, group := (s.unit u).cls,
        scale := if (s.cls (s.unit u).cls).refUnit.isSome then (s.unit u).equiv else none,
        isBase := (s.unit u).defn.isNone, normDef := (s.unit u).normDef } := by
  unfold Env.info RegState.unitEnv RegState.unit
  simp only [List.getD_eq_getElem?_getD, List.getElem?_map]
  rcases Nat.lt_or_ge u s.units.length with h | h
  · simp only [List.getElem?_eq_getElem h, Option.map_some, Option.getD_some, if_pos h]
  · simp only [List.getElem?_eq_none h, Option.map_none, Option.getD_none, if_neg (not_lt.mpr h)]
    exact congrArg (AtomInfo.mk 1 0 · true []) (ite_self _).symm

theorem unitEnv_info (s : RegState) (u : Nat) (h : u < s.units.length) :
    s.unitEnv.info u =
      { key := ((s.unit u).cls : Int), group := (s.unit u).cls,
        scale := (if (s.cls (s.unit u).cls).refUnit.isSome then (s.unit u).equiv else none),
        isBase := (s.unit u).defn.isNone, normDef := (s.unit u).normDef } := by
  rw [unitEnv_info_total, if_pos h]

theorem unitEnv_info_default (s : RegState) (u : Nat) (h : s.units.length ≤ u) :
    (s.unitEnv.info u).isBase = true ∧ (s.unitEnv.info u).scale = none := by
  rw [unitEnv_info_total, unit_default s u h]; exact ⟨rfl, ite_self _⟩

theorem unitEnv_group (s : RegState) (u : Nat) : (s.unitEnv.info u).group = (s.unit u).cls := by
  rw [unitEnv_info_total]

theorem unitEnv_scale (s : RegState) (u : Nat) : (s.unitEnv.info u).scale =
    if (s.cls (s.unit u).cls).refUnit.isSome then (s.unit u).equiv else none := by
  rw [unitEnv_info_total]

theorem unitEnv_isBase (s : RegState) (u : Nat) :
    (s.unitEnv.info u).isBase = (s.unit u).defn.isNone := by
  rw [unitEnv_info_total]

theorem unitEnv_normDef (s : RegState) (u : Nat) :
    (s.unitEnv.info u).normDef = (s.unit u).normDef := by
  rw [unitEnv_info_total]

theorem lt_of_ne_default {β} (p : UnitInfo → β) {s : RegState} {u : Nat}
    (h : p (s.unit u) ≠ p default) : u < s.units.length :=
  not_le.mp fun hu => h (by rw [unit_default s u hu])

theorem getFactor_unitEnv (s : RegState) (a b : Nat) (f : ℚ) :
    getFactor s.unitEnv a b = some f ↔
      (s.unit a).cls = (s.unit b).cls ∧ (s.cls (s.unit a).cls).refUnit.isSome = true ∧
      ∃ sa sb, (s.unit a).equiv = some sa ∧ (s.unit b).equiv = some sb ∧ f = sa / sb := by
  rw [getFactor_eq_some_iff, unitEnv_group, unitEnv_group, unitEnv_scale, unitEnv_scale]
  refine and_congr_right fun hc => ?_
  rw [← hc]
  cases (s.cls (s.unit a).cls).refUnit.isSome <;> simp [eq_comm]

theorem cls_addClass (s : RegState) (ci : ClassInfo) (c : Nat) :
    RegState.cls { s with classes := s.classes ++ [ci] } c =
      if c = s.classes.length then ci else s.cls c := by
  unfold RegState.cls
  rcases Nat.lt_trichotomy c s.classes.length with h | h | h
  · rw [List.getD_append _ _ _ _ h, if_neg (Nat.ne_of_lt h)]
  · subst h; simp
  · rw [if_neg (Nat.ne_of_gt h), List.getD_eq_default _ _ (by simp; omega),
      List.getD_eq_default _ _ (Nat.le_of_lt h)]

theorem cls_setRefUnit_units (s : RegState) (cid uid : Nat) (m : List (Items × Nat)) (c : Nat) :
    (RegState.cls { s with classes := s.classes.modify cid fun ci => { ci with refUnit := some uid },
                           clsMap := m } c).units = (s.cls c).units :=
  getD_modify_proj ClassInfo.units fun _ => rfl

theorem cls_setRefUnit_refUnit (s : RegState) (cid uid : Nat) (m : List (Items × Nat)) (c : Nat) :
    (RegState.cls { s with classes := s.classes.modify cid fun ci => { ci with refUnit := some uid },
                           clsMap := m } c).refUnit =
      if cid = c ∧ c < s.classes.length then some uid else (s.cls c).refUnit := by
  unfold RegState.cls
  rw [getD_modify]; split <;> rfl

theorem cls_modify_units_refUnit (cs : List ClassInfo) (c c' uid : Nat) :
    ((cs.modify c fun ci => { ci with units := ci.units ++ [uid] }).getD c' default).refUnit
      = (cs.getD c' default).refUnit :=
  getD_modify_proj ClassInfo.refUnit fun _ => rfl

/-- `num_elem or ONE`: the scale `_make_unit` reads off a normalised definition -/
def numOrOne (l : Items) : ℚ :=
  match numElem l with
  | some n => if n = 0 then 1 else n
  | none => 1

/-- what a successful `_make_unit` does to each directory -/
structure MadeUnit (s : RegState) (c : Nat) (sym : String) (defn : Option Items) (isRef : Bool)
    (s' : RegState) (uid : Nat) : Prop where
  uid_eq : uid = s.units.length
  units : s'.units = s.units ++ [s'.unit uid]
  symbol : (s'.unit uid).symbol = sym
  cls : (s'.unit uid).cls = c
  normDef : (s'.unit uid).normDef = (defn.map (termNormalized s.unitEnv)).getD [(.atom uid, 1)]
  equiv : (s'.unit uid).equiv =
    if isRef then some 1 else defn.map fun d => numOrOne (termNormalized s.unitEnv d)
  defn : (s'.unit uid).defn = defn
  symMap : s'.symMap = s.symMap ++ [(sym, uid)]
  fresh : sym ∉ s.symMap.map Prod.fst
  nonempty : sym ≠ ""
  termMap : s'.termMap = s.termMap ∨ s'.termMap = s.termMap ++ [((s'.unit uid).normDef, uid)]
  classes : s'.classes = s.classes.modify c (fun ci => { ci with units := ci.units ++ [uid] })
  clsMap : s'.clsMap = s.clsMap
  opCache : s'.opCache = s.opCache

theorem makeUnit_effect {s : RegState} {c : Nat} {sym : String} {defn : Option Items}
    {isRef : Bool} {s' : RegState} {uid : Nat}
    (h : s.makeUnit c sym defn isRef = .ok (s', uid)) : MadeUnit s c sym defn isRef s' uid := by
  unfold RegState.makeUnit at h
  simp only at h
  split at h
  · cases h
  · split at h
    · cases h
    · rename_i hne hnone
      simp only [Except.ok.injEq, Prod.mk.injEq] at h
      obtain ⟨rfl, rfl⟩ := h
      -- the new unit is the last entry of `units`: what is said of `s'.unit uid` is read off it
      have hnew := unit_append_new s.units
      exact {
        uid_eq := rfl
        units := by simp only [RegState.unit, hnew]
        symbol := by simp only [RegState.unit, hnew]
        cls := by simp only [RegState.unit, hnew]
        normDef := by simp only [RegState.unit, hnew]; cases defn <;> rfl
        equiv := by simp only [RegState.unit, hnew]; cases defn <;> cases isRef <;> rfl
        defn := by simp only [RegState.unit, hnew]
        symMap := rfl
        fresh := (lookup_eq_none_iff_not_mem _ _).mp (Option.not_isSome_iff_eq_none.mp hnone)
        nonempty := by simpa using hne
        termMap := by
          simp only [RegState.unit, hnew]
          split
          · exact .inl rfl
          · exact .inr rfl
        classes := rfl
        clsMap := rfl
        opCache := rfl }

namespace MadeUnit
variable {s : RegState} {c : Nat} {sym : String} {defn : Option Items} {isRef : Bool}
  {s' : RegState} {uid : Nat} (m : MadeUnit s c sym defn isRef s' uid)
include m

theorem len : s'.units.length = s.units.length + 1 := by rw [m.units]; simp

theorem lt : uid < s'.units.length := by rw [m.len, m.uid_eq]; exact Nat.lt_succ_self _

theorem old (w : Nat) (hw : w < s.units.length) : s'.unit w = s.unit w := by
  unfold RegState.unit; rw [m.units]; exact unit_append_old _ _ _ hw

theorem keep {w : Nat} {p : UnitInfo → Prop} (h : w < s.units.length ∧ p (s.unit w)) :
    w < s'.units.length ∧ p (s'.unit w) :=
  ⟨m.len ▸ Nat.lt_succ_of_lt h.1, by rw [m.old w h.1]; exact h.2⟩

theorem cases_lt {w : Nat} (hw : w < s'.units.length) : w < s.units.length ∨ w = uid := by
  have := m.len; have := m.uid_eq; omega

theorem lists {c' u : Nat} (h : u ∈ (s'.cls c').units) :
    u ∈ (s.cls c').units ∨ (c' = c ∧ u = uid) := by
  unfold RegState.cls at h ⊢
  rw [m.classes, getD_modify] at h
  split at h
  · rename_i hc
    rcases List.mem_append.mp h with h | h
    · exact .inl h
    · exact .inr ⟨hc.1.symm, by simpa using h⟩
  · exact .inl h

theorem refs (c' : Nat) : (s'.cls c').refUnit = (s.cls c').refUnit := by
  unfold RegState.cls; rw [m.classes]
  exact cls_modify_units_refUnit _ _ _ _

theorem nclasses : s'.classes.length = s.classes.length := by rw [m.classes, List.length_modify]

theorem symbols (hu : (s.symMap.map Prod.fst).Nodup)
    (hp : ∀ sy u, (sy, u) ∈ s.symMap → u < s.units.length ∧ (s.unit u).symbol = sy) :
    (s'.symMap.map Prod.fst).Nodup ∧
    ∀ sy u, (sy, u) ∈ s'.symMap → u < s'.units.length ∧ (s'.unit u).symbol = sy := by
  constructor
  · rw [m.symMap, List.map_append, List.nodup_append]
    refine ⟨hu, by simp, ?_⟩
    intro a ha b hb
    simp only [List.map_cons, List.map_nil, List.mem_singleton] at hb
    subst hb; intro hab; subst hab; exact m.fresh ha
  · intro sy u hm
    rw [m.symMap, List.mem_append, List.mem_singleton] at hm
    rcases hm with hm | hm
    · exact m.keep (p := fun x => x.symbol = sy) (hp sy u hm)
    · cases hm; exact ⟨m.lt, m.symbol⟩

end MadeUnit

/-- `s'` differs from `s` only in what none of the registry invariants reads:
the class registry `clsMap`, names, definitions and quanta of classes, the
smallest fractions of currencies -/
structure Same (s s' : RegState) : Prop where
  len : s'.units.length = s.units.length
  symbol : ∀ u, (s'.unit u).symbol = (s.unit u).symbol
  ucls : ∀ u, (s'.unit u).cls = (s.unit u).cls
  defn : ∀ u, (s'.unit u).defn = (s.unit u).defn
  equiv : ∀ u, (s'.unit u).equiv = (s.unit u).equiv
  normDef : ∀ u, (s'.unit u).normDef = (s.unit u).normDef
  symMap : s'.symMap = s.symMap
  termMap : s'.termMap = s.termMap
  opCache : s'.opCache = s.opCache
  lists : ∀ c, (s'.cls c).units = (s.cls c).units
  refs : ∀ c, (s'.cls c).refUnit = (s.cls c).refUnit

theorem Same.addClass (s : RegState) (ci : ClassInfo) (m : List (Items × Nat))
    (hu : ci.units = []) (hr : ci.refUnit = none) :
    Same s { s with classes := s.classes ++ [ci], clsMap := m } := by
  -- in what is read of it, the new class is the default that `s.cls` returns for its number
  have hp : ∀ {β} (p : ClassInfo → β), p ci = p default → ∀ c,
      p (RegState.cls { s with classes := s.classes ++ [ci], clsMap := m } c) = p (s.cls c) := by
    intro β p h c
    show p (RegState.cls { s with classes := s.classes ++ [ci] } c) = _
    rw [cls_addClass]; split
    · rw [h, ‹c = _›, cls_default s _ (le_refl _)]
    · rfl
  exact ⟨rfl, fun _ => rfl, fun _ => rfl, fun _ => rfl, fun _ => rfl, fun _ => rfl, rfl, rfl, rfl,
    hp _ hu, hp _ hr⟩

theorem Same.setFraction (s : RegState) (uid : Nat) (frac : Rat) :
    Same s { s with units := s.units.modify uid fun u => { u with smallestFraction := some frac } } := by
  have hp : ∀ {β} (p : UnitInfo → β), (∀ a, p { a with smallestFraction := some frac } = p a) →
      ∀ u, p (RegState.unit { s with units := s.units.modify uid fun u =>
        { u with smallestFraction := some frac } } u) = p (s.unit u) :=
    fun p h u => getD_modify_proj p h
  exact ⟨List.length_modify _ _ _, hp _ fun _ => rfl, hp _ fun _ => rfl, hp _ fun _ => rfl,
    hp _ fun _ => rfl, hp _ fun _ => rfl, rfl, rfl, rfl, fun _ => rfl, fun _ => rfl⟩

/-! Elimination principles: to prove `P` of the outcome of a declaration, prove
it of a rejection (the state is the old one) and of each way the declaration
can succeed. -/

section shape
variable {P : RegState × Except DeclErr Nat → Prop}

theorem liftMake_cases (s : RegState) (r : Except DeclErr (RegState × Nat))
    (rejected : ∀ e, P (s, .error e))
    (made : ∀ s' uid, r = .ok (s', uid) → P (s', .ok uid)) : P (liftMake s r) := by
  unfold liftMake
  rcases r with e | ⟨s', uid⟩
  · exact rejected e
  · exact made s' uid rfl

/-- the definition that `new_unit` hands on to `_make_unit` -/
inductive NewUnitDefn (s : RegState) (c : Nat) : UnitDefArg → Option Items → Prop
  | none : NewUnitDefn s c .none none
  | qty (a : Rat) (u : Nat) : (s.unit u).cls = c →
      NewUnitDefn s c (.qty a u) (some (mkTerm s.unitEnv [(.num a, 1), (.atom u, 1)]))
  | term (t : Items) (f : Rat) (u : Nat) : s.amntAndUnit t = some (f, some u) → (s.unit u).cls = c →
      NewUnitDefn s c (.term t) (some t)

theorem newUnit_cases (s : RegState) (c : Nat) (sym : Option String) (d : UnitDefArg)
    (rejected : ∀ e, P (s, .error e))
    (made : ∀ sy defn s' uid, sym = some sy → NewUnitDefn s c d defn →
      s.makeUnit c sy defn false = .ok (s', uid) → P (s', .ok uid)) :
    P (s.newUnit c sym d) := by
  unfold RegState.newUnit
  rcases sym with _ | sy
  · exact rejected _
  · simp only
    split
    · exact rejected _
    · have fin : ∀ defn, NewUnitDefn s c d defn → P (liftMake s (s.makeUnit c sy defn false)) :=
        fun defn hd => liftMake_cases s _ rejected fun s' uid h => made sy defn s' uid rfl hd h
      cases d with
      | none => exact fin _ .none
      | other => exact rejected _
      | qty a u =>
        by_cases hc : (s.unit u).cls = c
        · simp only [hc, bne_self_eq_false, Bool.false_eq_true, ↓reduceIte]
          exact fin _ (.qty a u hc)
        · simp only [bne_iff_ne, ne_eq, hc, not_false_eq_true, ↓reduceIte]
          exact rejected _
      | term t =>
        simp only
        rcases h : s.amntAndUnit t with _ | ⟨f, _ | u⟩
        · exact rejected _
        · exact rejected _
        · by_cases hc : (s.unit u).cls = c
          · simp only [hc, bne_self_eq_false, Bool.false_eq_true, ↓reduceIte]
            exact fin _ (.term t f u h hc)
          · simp only [bne_iff_ne, ne_eq, hc, not_false_eq_true, ↓reduceIte]
            exact rejected _

theorem deriveUnit_cases (s : RegState) (c : Nat) (args : List Nat) (sym : Option String)
    (rejected : ∀ e, P (s, .error e))
    (made : ∀ cdef sy s' uid, (s.cls c).defn = some cdef →
      s.makeUnit c sy (some (mkTerm s.unitEnv ((cdef.zip args).map fun (it, u) => (Elem.atom u, it.2))))
        false = .ok (s', uid) → P (s', .ok uid)) :
    P (s.deriveUnit c args sym) := by
  unfold RegState.deriveUnit
  extract_lets ci
  split
  · exact rejected _
  rename_i cdef hcdef
  split
  · exact rejected _
  split
  · exact rejected _
  extract_lets pairs t symRes
  clear_value symRes
  split
  · exact rejected _
  split
  · exact rejected _
  · exact liftMake_cases s _ rejected fun s' uid h => made cdef _ s' uid hcdef h

/-- the definition of the reference unit of a class defined as `t`: the product
of the reference units of the classes that `t` mentions -/
def RegState.refUnitDef (s : RegState) (t : Items) : Items :=
  reduceItems s.unitEnv ((t.map fun it => match it.1 with
    | .atom c => (s.cls c).refUnit.map fun u => (Elem.atom u, it.2)
    | .num _ => none).filterMap id) none true

theorem classSuccess_cases (s s1 : RegState) (cid : Nat) (nd : Items) (sym : Option String)
    (rd : Option Items)
    (rejected : ∀ e, P (s, .error e))
    (plain : P ({ s1 with clsMap := s1.clsMap ++ [(nd, cid)] }, .ok cid))
    (withRef : ∀ sy s2 uid, s1.makeUnit cid sy rd true = .ok (s2, uid) →
      P ({ s2 with classes := s2.classes.modify cid fun ci => { ci with refUnit := some uid },
                   clsMap := s2.clsMap ++ [(nd, cid)] }, .ok cid)) :
    P (classSuccess s s1 cid nd sym rd) := by
  unfold classSuccess
  have fin : ∀ sy, P (finishClass s cid nd (s1.makeUnit cid sy rd true)) := by
    intro sy
    unfold finishClass
    rcases h : s1.makeUnit cid sy rd true with e | ⟨s2, uid⟩
    · exact rejected e
    · exact withRef sy s2 uid h
  rcases sym with _ | sy
  · exact plain
  · simp only; split
    · exact plain
    · exact fin sy

/-- an accepted class statement appends a class without units and reference unit
and enters it into the class registry, which no invariant sees (`Same`); if
there is a reference unit symbol, that unit is made in between (defined, for a
derived class, as `refUnitDef`) and entered into the new class -/
theorem declClass_cases (s : RegState) (d : ClassDecl)
    (rejected : ∀ e, P (s, .error e))
    (plain : ∀ s', Same s s' → P (s', .ok s.classes.length))
    (withRef : ∀ s1 nd sy rd s2 uid, Same s s1 → s.classes.length < s1.classes.length →
      (s1.cls s.classes.length).refUnit = none →
      (∀ dd, rd = some dd → ∃ t, dd = s.refUnitDef t) →
      s1.makeUnit s.classes.length sy rd true = .ok (s2, uid) →
      P ({ s2 with classes := s2.classes.modify s.classes.length fun c => { c with refUnit := some uid },
                   clsMap := s2.clsMap ++ [(nd, s.classes.length)] }, .ok s.classes.length)) :
    P (s.declClass d) := by
  unfold RegState.declClass
  extract_lets cenv defineAs normCls refUnitDef symRes cid normDef ci
  clear_value defineAs
  have hrd : ∀ dd, refUnitDef = some dd → ∃ t, dd = s.refUnitDef t := by
    intro dd hdd
    simp only [refUnitDef] at hdd
    split at hdd
    · cases hdd
    · split at hdd
      · exact ⟨_, (Option.some.inj hdd).symm⟩
      · cases hdd
  have fin : ∀ sym, P (classSuccess s { s with classes := s.classes ++ [ci] } cid normDef sym refUnitDef) :=
    fun sym => classSuccess_cases s _ cid normDef sym refUnitDef rejected
      (plain _ (.addClass s ci _ rfl rfl))
      fun sy s2 uid h => withRef _ normDef sy refUnitDef s2 uid (.addClass s ci s.clsMap rfl rfl)
        (by simp) (by rw [cls_addClass, if_pos rfl]) hrd h
  -- the checks in the order of the code; `split` cannot see through a `let` value
  clear_value refUnitDef symRes
  split
  · exact rejected _
  split
  · exact rejected _
  split
  · exact rejected _
  extract_lets symGiven
  clear_value symGiven
  split
  · exact rejected _
  split
  · exact rejected _
  -- the last check is an `if` on a `match`, which `split` takes first
  split <;> split
  · exact rejected _
  · exact fin _
  · exact rejected _
  · exact fin _

/-- the smallest fraction an accepted currency declaration arrives at -/
inductive CurrencyFrac : MinorArg → SfArg → Rat → Prop
  | minor (n : Int) : CurrencyFrac (.int n) .none (1 / (10 : Rat) ^ n.toNat)
  | dflt : CurrencyFrac .none .none (1 / 100)
  | given (mi : MinorArg) (v : Rat) (p : Nat) : CurrencyFrac mi (.dec v p) v

theorem newCurrency_cases (s : RegState) (mc : Nat) (sym : Option String) (mi : MinorArg) (sf : SfArg)
    (rejected : ∀ e, P (s, .error e))
    (made : ∀ sy frac s' uid, sym = some sy → CurrencyFrac mi sf frac →
      s.makeUnit mc sy none false = .ok (s', uid) →
      P ({ s' with units := s'.units.modify uid fun u => { u with smallestFraction := some frac } },
         .ok uid)) :
    P (s.newCurrency mc sym mi sf) := by
  have fin : ∀ frac, CurrencyFrac mi sf frac → P (finishCurrency s (s.newUnit mc sym .none) frac) := by
    intro frac hfrac
    unfold finishCurrency
    refine newUnit_cases (P := fun r => P (match r with
      | (_, .error e) => (s, .error e)
      | (s', .ok uid) => ({ s' with units := s'.units.modify uid fun u =>
          { u with smallestFraction := some frac } }, .ok uid))) s mc sym .none
      rejected fun sy defn s' uid hsym hdefn h => ?_
    cases hdefn
    exact made sy frac s' uid hsym hfrac h
  unfold RegState.newCurrency
  split
  · exact rejected _
  rename_i hmi
  simp only
  split
  · exact rejected _
  rename_i frac hfrac
  refine fin frac ?_
  cases sf with
  | invalid => cases hfrac
  | none =>
    cases mi with
    | nonInt => cases hmi
    | int n => cases hfrac; exact .minor n
    | none => cases hfrac; exact .dflt
  | dec v p =>
    -- whatever the minor unit, the branches that accept return the given value
    obtain rfl : v = frac := by
      cases mi <;> simp only at hfrac <;> split_ifs at hfrac <;> cases hfrac <;> rfl
    exact .given mi v p

end shape

theorem newCurrency_fraction (r r' : RegState) (mc : Nat) (sym : Option String) (mi : MinorArg)
    (sf : SfArg) (uid : Nat) (h : r.newCurrency mc sym mi sf = (r', .ok uid)) :
    ∃ frac, CurrencyFrac mi sf frac ∧ (r'.unit uid).smallestFraction = some frac := by
  refine newCurrency_cases (P := fun x => x = (r', .ok uid) → _) r mc sym mi sf
    (rejected := fun e he => nomatch he)
    (made := fun sy frac s' uid' _ hfrac hm he => ⟨frac, hfrac, ?_⟩) h
  cases he
  rw [RegState.unit, getD_modify, if_pos ⟨rfl, (makeUnit_effect hm).lt⟩]

end QM
