/-
Facts that let the term theorems (canonical form, idempotence, equality ⇔
same denotation) be applied to the unit environment of a registry.
-/
import QuantityModel.Proofs.Scale
import QuantityModel.Proofs.TermSem
namespace QM

theorem info_default (env : Env) (a : Nat) (h : env.atoms.length ≤ a) :
    env.info a = { key := 1, group := 0, scale := none, isBase := true, normDef := [] } :=
  List.getD_eq_default _ _ h

theorem keysNonneg_of_atoms (env : Env) (h : ∀ i ∈ env.atoms, 0 ≤ i.key) : KeysNonneg env := fun a => by
  unfold keyOf
  rcases Nat.lt_or_ge a env.atoms.length with ha | ha
  · rw [Env.info, List.getD_eq_getElem _ _ ha]; exact h _ (List.getElem_mem ha)
  · rw [info_default env a ha]; decide

/-- sort keys of units are registration ids of their types: never negative -/
theorem keysNonneg_unitEnv (s : RegState) : KeysNonneg s.unitEnv :=
  keysNonneg_of_atoms _ (List.forall_mem_map.mpr fun _ _ => Int.natCast_nonneg _)

/-- decidable, bounded forms of the two environment hypotheses of the term
theorems; beyond `env.atoms.length` every element is a base element without
scale, so the bounded check decides the unbounded statement -/
def baseNoConvUpTo (env : Env) (n : Nat) : Bool :=
  (List.range n).all fun x => (List.range n).all fun y =>
    !((env.info x).isBase && (env.info y).isBase && x != y) || (getFactor env y x).isNone

def defsBaseOnlyUpTo (env : Env) (n : Nat) : Bool :=
  (List.range n).all fun a =>
    (env.info a).isBase || (atomsOf (env.info a).normDef).all fun b => (env.info b).isBase

theorem baseNoConv_of_check (env : Env) (h : baseNoConvUpTo env env.atoms.length = true) :
    BaseNoConv env := by
  intro x y hx hy hne
  by_cases hl : x < env.atoms.length ∧ y < env.atoms.length
  · have := List.all_eq_true.mp (List.all_eq_true.mp h x (List.mem_range.mpr hl.1)) y
      (List.mem_range.mpr hl.2)
    simpa [hx, hy, hne] using this
  · refine getFactor_eq_none_of_scale ?_
    rcases not_and_or.mp hl with h | h
    · exact .inr (by rw [info_default env x (not_lt.mp h)])
    · exact .inl (by rw [info_default env y (not_lt.mp h)])

theorem defsBaseOnly_of_check (env : Env) (h : defsBaseOnlyUpTo env env.atoms.length = true) :
    DefsBaseOnly env := by
  intro a hb c hc
  by_cases hal : a < env.atoms.length
  · unfold defsBaseOnlyUpTo at h
    rw [List.all_eq_true] at h
    have h1 := h a (List.mem_range.mpr hal)
    simp only [hb, Bool.false_or, List.all_eq_true] at h1
    exact h1 c hc
  · rw [info_default env a (not_lt.mp hal)] at hb; simp at hb

end QM
