/-
The keys of `keep_item_order=True` (`firstIdxKeys`: a sort key is replaced by
the position of the first item that carries it) on a list that is sorted by
sort key: they ascend, and coincide exactly where the sort keys do.  So the
stable sort and the sequential pass treat such a list as they do under
`keep_item_order=False`, which is why `Term.__init__` returns the items of a
normal form unchanged.
-/
import QuantityModel.Proofs.Term
namespace QM

/-- keys ascend, and equal keys mean equal sort keys -/
def KOut (env : Env) (x y : Int × Item) : Prop :=
  x.1 ≤ y.1 ∧ (x.1 = y.1 → sortKey env x.2.1 = sortKey env y.2.1)

/-- `keep_item_order=True` on a list sorted by sort key: only the greatest
sort key seen so far, `k₀` with its key `m₀`, can be met again, so every item
gets `m₀` or a new, greater key. -/
theorem firstIdxKeys_sorted (env : Env) (items : Items) (idx : Nat) (seen : List (Int × Int))
    (k₀ m₀ : Int) (hseen : ∀ k, k₀ ≤ k → seen.lookup k = if k = k₀ then some m₀ else none)
    (hm : m₀ ≤ idx) (hs : items.Pairwise fun x y => sortKey env x.1 ≤ sortKey env y.1)
    (hle : ∀ x ∈ items, k₀ ≤ sortKey env x.1) :
    (firstIdxKeys env items idx seen).Pairwise (KOut env) ∧
    ∀ x ∈ firstIdxKeys env items idx seen,
      (x.1 = m₀ ∧ sortKey env x.2.1 = k₀) ∨ (idx : Int) < x.1 := by
  induction items generalizing idx seen k₀ m₀ with
  | nil => exact ⟨.nil, fun _ h => absurd h List.not_mem_nil⟩
  | cons it rest ih =>
    rw [List.pairwise_cons] at hs
    rw [List.forall_mem_cons] at hle
    -- the head gets the key `m'`; the tail is classified for `(sortKey it, m')` at `idx + 1`
    have head (m' : Int) (T : List (Int × Item)) (hm' : m' ≤ idx + 1) (hT : T.Pairwise (KOut env) ∧
        ∀ y ∈ T, (y.1 = m' ∧ sortKey env y.2.1 = sortKey env it.1) ∨ ((idx + 1 : Nat) : Int) < y.1) :
        ((m', it) :: T).Pairwise (KOut env) :=
      List.pairwise_cons.mpr ⟨fun y hy => by
        rcases hT.2 y hy with ⟨h1, h2⟩ | h1
        · exact ⟨h1.ge, fun _ => h2.symm⟩
        · exact ⟨by omega, fun h => by have : m' = y.1 := h; omega⟩, hT.1⟩
    have hlk := hseen _ hle.1
    unfold firstIdxKeys
    by_cases heq : sortKey env it.1 = k₀
    · subst heq
      rw [if_pos rfl] at hlk
      simp only [hlk]
      have := ih (idx + 1) seen _ m₀ hseen (by omega) hs.2 hle.2
      exact ⟨head m₀ _ (by omega) this, List.forall_mem_cons.mpr ⟨.inl ⟨rfl, rfl⟩,
        fun x hx => (this.2 x hx).imp_right fun h => by omega⟩⟩
    · rw [if_neg heq] at hlk
      have hlt : k₀ < sortKey env it.1 := lt_of_le_of_ne hle.1 (Ne.symm heq)
      simp only [hlk]
      have := ih (idx + 1) ((sortKey env it.1, (idx : Int) + 1) :: seen) _ ((idx : Int) + 1)
        (fun k hk' => by
          rw [List.lookup_cons]
          by_cases hkk : k = sortKey env it.1
          · rw [hkk, beq_self_eq_true, if_pos rfl]
          · rw [beq_eq_false_iff_ne.mpr hkk, hseen k (hlt.le.trans hk'),
              if_neg (ne_of_gt (hlt.trans_le hk')), if_neg hkk])
        (by simp) hs.2 hs.1
      exact ⟨head _ _ le_rfl this, List.forall_mem_cons.mpr ⟨.inr (Int.lt_succ_self _),
        fun x hx => .inr (by rcases this.2 x hx with ⟨h1, _⟩ | h1 <;> omega)⟩⟩
end QM
