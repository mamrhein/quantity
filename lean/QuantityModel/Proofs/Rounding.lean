/-
Integer-level facts about the *generated* `Gen.floordivRounded`
(translated from /repo/src/quantity/__init__.py on every run).
Core tactics only.

For `0 < y` write `x = q * y + rem` with `0 ≤ rem < y` (`q = Int.fdiv x y`).
Less than one away from the exact quotient are only `q` and, when `rem ≠ 0`,
`q + 1` (`cand_of_iabs_lt`).  Each mode's specification holds of `q + 1`
exactly when `roundsUp` holds and of `q` exactly otherwise
(`RoundSpec_cand_iff`), so it determines its result (`RoundSpec_iff`, from the
specification alone).  The code returns that same integer (`floordiv_eq`): code
and specification agree result for result, `floordiv_ok_iff_spec`.
-/
import QuantityModel.Gen.FloorDiv
import QuantityModel.Ref.RoundSpec
namespace QM
open QM.Gen

/-- Python raises ZeroDivisionError in `divmod(x, 0)`. -/
theorem floordiv_zero (x : Int) (m : Option Rounding) (d : Rounding) :
    floordivRounded x 0 m d = .error Err.ZeroDivisionError := by
  simp [floordivRounded]

/-- `rounding=None` means the configured default mode. -/
theorem floordiv_none (x y : Int) (d : Rounding) :
    floordivRounded x y none d = floordivRounded x y (some d) d := rfl

theorem floordiv_some_dflt (x y : Int) (m d d' : Rounding) :
    floordivRounded x y (some m) d = floordivRounded x y (some m) d' := rfl

theorem iabs_of_nonneg {a : Int} (h : 0 ≤ a) : iabs a = a := by unfold iabs; split <;> omega
theorem iabs_of_neg {a : Int} (h : a < 0) : iabs a = -a := by unfold iabs; split <;> omega
theorem iabs_neg (a : Int) : iabs (-a) = iabs a := by unfold iabs; split <;> split <;> omega

/-- Python's `divmod(-x, -y) == (q, -r)`: the result only depends on the quotient. -/
theorem floordiv_neg_neg (x y : Int) (m : Option Rounding) (d : Rounding) :
    floordivRounded (-x) (-y) m d = floordivRounded x y m d := by
  unfold floordivRounded
  simp only [Int.neg_fdiv_neg, Int.neg_fmod_neg, iabs_neg, Int.mul_neg]
  simp

/-- For a positive divisor and an inexact division with floor quotient `q` and
remainder `rem`: whether the code returns `q + 1` instead of `q`. -/
def roundsUp (m : Rounding) (q rem y : Int) : Bool :=
  match m with
  | .ROUND_FLOOR => false
  | .ROUND_CEILING => true
  | .ROUND_DOWN => q < 0
  | .ROUND_UP => 0 ≤ q
  | .ROUND_HALF_UP => y < 2 * rem || (2 * rem == y && decide (0 ≤ q))
  | .ROUND_HALF_DOWN => y < 2 * rem || (2 * rem == y && decide (q < 0))
  | .ROUND_HALF_EVEN => y < 2 * rem || (2 * rem == y && q % 2 != 0)
  | .ROUND_05UP => (decide (0 ≤ q) && q % 5 == 0) || (decide (q < 0) && (q + 1) % 5 != 0)

theorem floordiv_eq (x : Int) {y : Int} (m d : Rounding) (hy : 0 < y) :
    floordivRounded x y (some m) d = .ok (
      if Int.fmod x y = 0 then Int.fdiv x y
      else if roundsUp m (Int.fdiv x y) (Int.fmod x y) y then Int.fdiv x y + 1 else Int.fdiv x y) := by
  have hne : y ≠ 0 := by omega
  have a1 := iabs_of_nonneg (a := 2 * Int.fmod x y) (by have := Int.fmod_nonneg_of_pos x hy; omega)
  have a2 := iabs_of_nonneg (Int.le_of_lt hy)
  have e2 (a : Int) : Int.fmod a 2 = a % 2 := Int.fmod_eq_emod_of_nonneg a (by decide)
  have e5 (a : Int) : Int.fmod a 5 = a % 5 := Int.fmod_eq_emod_of_nonneg a (by decide)
  unfold floordivRounded
  -- `omega` has nothing to do for the text as generated from the present source; it closes what is left when the
  -- Python is rewritten with a negated test or swapped arms (seeded/harmless/H11B)
  cases m <;> simp [hne, roundsUp, a1, a2, e2, e5, ← apply_ite (Except.ok (ε := Err))] <;> omega

section candidates
variable {x y q rem : Int} (hx : x = q * y + rem)
include hx

theorem cand_of_iabs_lt {r : Int} (h0 : 0 ≤ rem) (h1 : rem < y) (h : iabs (x - r * y) < y) :
    r = q ∨ (r = q + 1 ∧ rem ≠ 0) := by
  obtain ⟨k, rfl⟩ : ∃ k, r = q + k := ⟨r - q, by omega⟩
  rw [show x - (q + k) * y = rem - k * y by rw [Int.add_mul]; omega] at h
  have h' : -y < rem - k * y ∧ rem - k * y < y := by unfold iabs at h; split at h <;> omega
  have hk2 : k < 2 := Int.lt_of_mul_lt_mul_right (a := y) (by omega) (by omega)
  have hk1 : -1 < k := Int.lt_of_mul_lt_mul_right (a := y) (by omega) (by omega)
  obtain rfl | rfl : k = 0 ∨ k = 1 := by omega
  all_goals omega

theorem RoundSpec_of_exact (m : Rounding) (hr : rem = 0) (hy : 0 < y) : RoundSpec m x y q := by
  have e : x - q * y = 0 := by omega
  cases m <;> simp [RoundSpec, TowardZero, AwayFromZero, e, iabs, hy] <;> omega

theorem pos_iff_of_inexact (h0 : 0 < rem) (h1 : rem < y) : (0 < x ↔ 0 ≤ q) ∧ (x < 0 ↔ q < 0) := by
  have hp : 0 ≤ q → 0 ≤ q * y := fun h => Int.mul_nonneg h (by omega)
  have hn : q ≤ -1 → q * y ≤ -1 * y := fun h => Int.mul_le_mul_of_nonneg_right h (by omega)
  omega

/-- At the floor quotient exact − result is `rem`, positive; at its successor
`rem - y`, negative. -/
theorem RoundSpec_cand_iff (m : Rounding) (h0 : 0 < rem) (h1 : rem < y) :
    (RoundSpec m x y q ↔ roundsUp m q rem y = false) ∧
    (RoundSpec m x y (q + 1) ↔ roundsUp m q rem y = true) := by
  obtain ⟨hp, hn⟩ := pos_iff_of_inexact hx h0 h1
  have e : x - q * y = rem := by omega
  have e' : x - (q + 1) * y = rem - y := by rw [Int.add_mul]; omega
  have a := iabs_of_nonneg (Int.le_of_lt h0)
  have a' : iabs (rem - y) = y - rem := by rw [iabs_of_neg (by omega)]; omega
  -- (`clear`: `grind` pays for every hypothesis in sight)
  constructor <;> cases m <;>
    simp only [RoundSpec, TowardZero, AwayFromZero, roundsUp, e, e', a, a'] <;>
    clear hx e e' a a' <;> grind

end candidates

/-- The specification holds of exactly one integer: the floor quotient, or its
successor when the division is inexact and `roundsUp` says so.  No code is
involved. -/
theorem RoundSpec_iff {x y r : Int} (m : Rounding) (hy : 0 < y) :
    RoundSpec m x y r ↔ r =
      if Int.fmod x y = 0 then Int.fdiv x y
      else if roundsUp m (Int.fdiv x y) (Int.fmod x y) y then Int.fdiv x y + 1 else Int.fdiv x y := by
  have hx := (Int.fdiv_mul_add_fmod x y).symm
  have h0 := Int.fmod_nonneg_of_pos x hy
  have h1 := Int.fmod_lt_of_pos x hy
  generalize Int.fdiv x y = q at *
  generalize Int.fmod x y = rem at *
  have cand (h : RoundSpec m x y r) := cand_of_iabs_lt hx h0 h1 h.1
  by_cases hr : rem = 0
  · rw [if_pos hr]
    exact ⟨fun h => (cand h).resolve_right (·.2 hr), fun h => h ▸ RoundSpec_of_exact hx m hr hy⟩
  · have h0' : 0 < rem := by omega
    obtain ⟨lo, hi⟩ := RoundSpec_cand_iff hx m h0' h1
    rw [if_neg hr]
    constructor
    · intro h
      rcases cand h with rfl | ⟨rfl, _⟩
      · simp [lo.1 h]
      · simp [hi.1 h]
    · rintro rfl
      cases hu : roundsUp m q rem y
      · exact lo.2 hu
      · exact hi.2 hu

theorem floordiv_ok_iff_spec {x y r : Int} (m d : Rounding) (hy : 0 < y) :
    floordivRounded x y (some m) d = .ok r ↔ RoundSpec m x y r := by
  rw [floordiv_eq x m d hy, Except.ok.injEq, RoundSpec_iff m hy, eq_comm]

theorem floordiv_meets_spec (x y : Int) (m d : Rounding) (hy : 0 < y) :
    ∃ r, floordivRounded x y (some m) d = .ok r ∧ RoundSpec m x y r :=
  ⟨_, floordiv_eq x m d hy, (floordiv_ok_iff_spec m d hy).1 (floordiv_eq x m d hy)⟩

theorem RoundSpec_unique (m : Rounding) (x y r₁ r₂ : Int) (hy : 0 < y)
    (h₁ : RoundSpec m x y r₁) (h₂ : RoundSpec m x y r₂) : r₁ = r₂ :=
  ((RoundSpec_iff m hy).1 h₁).trans ((RoundSpec_iff m hy).1 h₂).symm

theorem floordiv_exact (q y : Int) (m d : Rounding) (hy : 0 < y) :
    floordivRounded (q * y) y (some m) d = .ok q :=
  (floordiv_ok_iff_spec m d hy).2 (RoundSpec_of_exact (rem := 0) (by omega) m rfl hy)

end QM
