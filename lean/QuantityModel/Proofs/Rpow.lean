import QuantityModel.Model.Term
import Mathlib.Algebra.Order.Field.Rat
namespace QM

theorem rpow_eq_zpow (q : ℚ) (e : ℤ) : rpow q e = q ^ e := by
  unfold rpow
  split
  · rw [← zpow_natCast, Int.toNat_of_nonneg ‹_›]
  · rw [← zpow_natCast, Int.toNat_of_nonneg (by omega), zpow_neg, inv_inv]

theorem rpow_one (q : ℚ) : rpow q 1 = q := by simp [rpow]

end QM
