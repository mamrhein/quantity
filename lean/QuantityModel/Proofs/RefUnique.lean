/-
In every state reachable by declarations (valid or rejected, in any order) a
base unit that carries a scale is the reference unit of its type.  Hence two
distinct base units are never convertible into each other (`BaseNoConv`), and
scaled base units never share a sort key (`KeysSeparate`): the two hypotheses
of the equivalence "terms are equal exactly when they denote the same factor
and exponents" (C07) and of the completeness of unit-term resolution (C02) are
theorems about reachable registries.
-/
import QuantityModel.Proofs.RegistryTerm
namespace QM

/-- a base unit with a scale is its type's reference unit -/
def RefInv (s : RegState) : Prop :=
  ∀ u, u < s.units.length → (s.unit u).defn = none → (s.unit u).equiv ≠ none →
    (s.cls (s.unit u).cls).refUnit = some u

theorem refInv_init : RefInv RegState.init := fun u hu => absurd hu (Nat.not_lt_zero u)

theorem RefInv.transfer {s s' : RegState} (hR : RefInv s) (h : Same s s') : RefInv s' := by
  intro u
  simp only [h.len, h.defn, h.equiv, h.ucls, h.refs]
  exact hR u

/-- `_make_unit` for anything but the reference unit of a base type -/
theorem refInv_makeUnit {s s' : RegState} {c : Nat} {sym : String} {defn : Option Items}
    {isRef : Bool} {uid : Nat} (h : s.makeUnit c sym defn isRef = .ok (s', uid)) (hR : RefInv s)
    (hnr : isRef = true → defn ≠ none) : RefInv s' := by
  have m := makeUnit_effect h
  intro u hu hd he
  rcases m.cases_lt hu with hu1 | rfl
  · rw [m.old u hu1] at hd he ⊢
    rw [m.refs]
    exact hR u hu1 hd he
  · rw [m.defn] at hd
    subst hd
    cases isRef with
    | true => exact absurd rfl (hnr rfl)
    | false => exact absurd m.equiv he

/-- the class statement: the reference unit is created (for a base type: a
base unit of scale 1, which breaks the invariant for a moment) and then entered
as the type's reference unit -/
theorem refInv_withRef {s1 s2 : RegState} {cid uid : Nat} {sy : String} {rd : Option Items}
    (h : s1.makeUnit cid sy rd true = .ok (s2, uid)) (hR1 : RefInv s1)
    (hcid : cid < s1.classes.length) (hnone : (s1.cls cid).refUnit = none) (mp : List (Items × Nat)) :
    RefInv { s2 with classes := s2.classes.modify cid fun c => { c with refUnit := some uid },
                     clsMap := mp } := by
  have m := makeUnit_effect h
  intro u (hu : u < s2.units.length) (hd : (s2.unit u).defn = none) (he : (s2.unit u).equiv ≠ none)
  show (RegState.cls _ (s2.unit u).cls).refUnit = some u
  rw [cls_setRefUnit_refUnit]
  rcases m.cases_lt hu with hu1 | rfl
  · rw [m.old u hu1] at hd he ⊢
    have hru := hR1 u hu1 hd he
    rw [if_neg fun h => (by rw [← h.1, hnone] at hru; cases hru), m.refs]
    exact hru
  · rw [m.cls, if_pos ⟨rfl, m.nclasses ▸ hcid⟩]

theorem refInv_applyDecl (s : RegState) (d : Decl) (hR : RefInv s) : RefInv (s.applyDecl d) := by
  cases d with
  | cls d =>
    exact declClass_cases (P := fun r => RefInv r.1) s d
      (rejected := fun _ => hR) (plain := fun _ => hR.transfer)
      (withRef := fun _ _ _ _ _ _ h1 hcid hnone _ h =>
        refInv_withRef h (hR.transfer h1) hcid hnone _)
  | newUnit c sym d =>
    exact newUnit_cases (P := fun r => RefInv r.1) s c sym d
      (rejected := fun _ => hR) (made := fun _ _ _ _ _ _ h => refInv_makeUnit h hR (by simp))
  | derive c args sym =>
    exact deriveUnit_cases (P := fun r => RefInv r.1) s c args sym
      (rejected := fun _ => hR) (made := fun _ _ _ _ _ h => refInv_makeUnit h hR (by simp))
  | currency mc sym mi sf =>
    exact newCurrency_cases (P := fun r => RefInv r.1) s mc sym mi sf
      (rejected := fun _ => hR)
      (made := fun _ frac s' uid _ _ h =>
        (refInv_makeUnit h hR (by simp)).transfer (.setFraction s' uid frac))

theorem reachable_refInv {s : RegState} (h : Reachable s) : RefInv s := by
  induction h with
  | init => exact refInv_init
  | step s d _ ih => exact refInv_applyDecl s d ih

theorem baseNoConv_of_refInv (s : RegState) (hR : RefInv s) : BaseNoConv s.unitEnv := by
  intro x y hx hy hne
  rw [unitEnv_isBase, Option.isNone_iff_eq_none] at hx hy
  by_contra hf
  obtain ⟨f, hf⟩ := Option.ne_none_iff_exists'.mp hf
  obtain ⟨hc, _, sy, sx, ey, ex, _⟩ := (getFactor_unitEnv s y x f).mp hf
  have ey' : (s.unit y).equiv ≠ none := by rw [ey]; simp
  have ex' : (s.unit x).equiv ≠ none := by rw [ex]; simp
  have h1 := hR x (lt_of_ne_default (·.equiv) ex') hx ex'
  have h2 := hR y (lt_of_ne_default (·.equiv) ey') hy ey'
  rw [hc, h1] at h2
  exact hne (Option.some.inj h2)

theorem reachable_baseNoConv {s : RegState} (h : Reachable s) : BaseNoConv s.unitEnv :=
  baseNoConv_of_refInv s (reachable_refInv h)

/-- every base unit the term expands to has a scale, i.e. (by `RefInv`) is the
reference unit of its type: the terms are built from units of types with
reference unit, defined by scaling it -/
def ScaledAtoms (env : Env) (t : Items) : Prop :=
  ∀ x ∈ atomsOf (iterNormalized env normFuel t), (env.info x).scale ≠ none

/-- for such terms the proviso of the equivalence theorem, no two distinct base
elements share a sort key, follows: the sort key of a unit is its type, and a
type has one reference unit -/
theorem keysSeparate_of_scaled (s : RegState) (hS : ScaleInv s) (hR : RefInv s) (t₁ t₂ : Items)
    (h₁ : ScaledAtoms s.unitEnv t₁) (h₂ : ScaledAtoms s.unitEnv t₂) :
    KeysSeparate s.unitEnv t₁ t₂ := by
  -- a base unit with a scale is registered, and the reference unit of its type
  have key : ∀ t, ScaledAtoms s.unitEnv t → ∀ x ∈ atomsOf (iterNormalized s.unitEnv normFuel t),
      x < s.units.length ∧ (s.cls (s.unit x).cls).refUnit = some x := by
    intro t ht x hx
    have hb : BaseOnly s.unitEnv (iterNormalized s.unitEnv normFuel t) := by
      apply iterNormalized_baseOnly; exact defsBaseOnly_of_scaleInv s hS
    replace hb := hb x hx
    have hsc := ht x hx
    rw [unitEnv_scale] at hsc
    rw [unitEnv_isBase, Option.isNone_iff_eq_none] at hb
    have he : (s.unit x).equiv ≠ none := fun h0 => hsc (by rw [h0, ite_self])
    exact ⟨lt_of_ne_default (·.equiv) he, hR x (lt_of_ne_default (·.equiv) he) hb he⟩
  have key' := fun x hx => (List.mem_append.mp hx).elim (key t₁ h₁ x) (key t₂ h₂ x)
  intro x hx y hy hk
  obtain ⟨hxl, hrx⟩ := key' x hx
  obtain ⟨hyl, hry⟩ := key' y hy
  unfold keyOf at hk
  rw [unitEnv_info s x hxl, unitEnv_info s y hyl] at hk
  rw [Nat.cast_inj.mp hk, hry] at hrx
  exact (Option.some.inj hrx).symm

/-- **terms of units with scales, in any registry reachable by well-formed
declarations, are equal exactly when they denote the same rational factor and
the same exponent for every base unit** — no hypothesis on the registry left -/
theorem termEq_iff_reachable {s : RegState} (h : ReachableWF s) (t₁ t₂ : Items)
    (h₁ : ScaledAtoms s.unitEnv t₁) (h₂ : ScaledAtoms s.unitEnv t₂)
    (c₁ : Clean t₁) (c₂ : Clean t₂) :
    termEq s.unitEnv t₁ t₂ = true ↔
      (numVal (expanded s.unitEnv t₁) = numVal (expanded s.unitEnv t₂) ∧
       ∀ a, expOf a (expanded s.unitEnv t₁) = expOf a (expanded s.unitEnv t₂)) :=
  termEq_iff s.unitEnv (keysNonneg_unitEnv s)
    (defsBaseOnly_of_scaleInv s (reachableWF_scaleInv h))
    (reachable_baseNoConv h.reachable) t₁ t₂
    (keysSeparate_of_scaled s (reachableWF_scaleInv h) (reachable_refInv h.reachable) t₁ t₂ h₁ h₂)
    c₁ c₂

end QM
