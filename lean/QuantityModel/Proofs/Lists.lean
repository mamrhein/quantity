/-
Facts about association lists (`List.lookup`) and about `List.modify` read
through `getD`, in the form the registry and the allocation proofs use them.
-/
namespace QM

theorem lookup_mem {α β} [BEq α] [LawfulBEq α] (l : List (α × β)) (k : α) (v : β)
    (h : l.lookup k = some v) : (k, v) ∈ l := by
  obtain ⟨l₁, l₂, rfl, _⟩ := List.lookup_eq_some_iff.mp h
  simp

theorem lookup_eq_find? {κ β} [BEq κ] [LawfulBEq κ] (l : List (κ × β)) (k : κ) :
    l.lookup k = (l.find? fun e => e.1 == k).map (·.2) := by
  induction l with
  | nil => rfl
  | cons a l ih =>
    rw [List.lookup_cons, List.find?_cons, BEq.comm]
    cases a.1 == k
    · exact ih
    · rfl

theorem lookup_eq_none_iff_not_mem {α β} [BEq α] [LawfulBEq α] (l : List (α × β)) (k : α) :
    l.lookup k = none ↔ k ∉ l.map Prod.fst := by
  simp only [List.lookup_eq_none_iff, List.mem_map, not_exists, not_and, bne_iff_ne]
  exact forall₂_congr fun _ _ => ne_comm

theorem lookup_none_not_mem' {α β} [BEq α] [LawfulBEq α] (l : List (α × β)) (k : α)
    (h : l.lookup k = none) : ∀ v, (k, v) ∉ l :=
  fun _ hv => (lookup_eq_none_iff_not_mem l k).mp h (List.mem_map_of_mem (f := Prod.fst) hv)

theorem lookup_of_mem_nodup {α β} [BEq α] [LawfulBEq α] (l : List (α × β)) (k : α) (v : β)
    (hm : (k, v) ∈ l) (hn : (l.map Prod.fst).Nodup) : l.lookup k = some v := by
  obtain ⟨l₁, l₂, rfl⟩ := List.append_of_mem hm
  rw [List.map_append, List.map_cons, List.nodup_append] at hn
  refine List.lookup_eq_some_iff.mpr ⟨l₁, l₂, rfl, fun p hp => ?_⟩
  simpa using fun hk : k = p.1 => hn.2.2 _ (List.mem_map_of_mem hp) k (List.mem_cons_self ..) hk.symm

theorem getD_modify {α} (l : List α) (i j : Nat) (f : α → α) (d : α) :
    (l.modify i f).getD j d = if i = j ∧ j < l.length then f (l.getD j d) else l.getD j d := by
  rw [List.getD_eq_getElem?_getD, List.getElem?_modify, List.getD_eq_getElem?_getD]
  by_cases hj : j < l.length
  · by_cases hi : i = j <;> simp [hj, hi]
  · simp [hj]

theorem getD_modify_proj {α β} (p : α → β) {l : List α} {i j : Nat} {f : α → α} {d : α}
    (hp : ∀ a, p (f a) = p a) : p ((l.modify i f).getD j d) = p (l.getD j d) := by
  rw [getD_modify]; split
  · exact hp _
  · rfl

end QM
