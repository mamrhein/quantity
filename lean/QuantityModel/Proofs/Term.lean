/-
Denotational correctness of the Term model.

`_reduce_items` does nothing but apply a handful of algebraic laws to the item
list, in some order: `Rew env l l'` says that `l'` arises from `l` by these
laws, and `rew_reduceItems` that every path of the reduction (all `n_items`
shortcuts, both `keep_item_order` modes) is such a rewriting.  Whatever the
laws preserve is then preserved by reduction, by induction over the laws: here
the denoted value under every valuation of the elements that respects
convertibility (`Rew.den`).
-/
import QuantityModel.Model.Term
import QuantityModel.Proofs.Rpow
import Mathlib.Algebra.BigOperators.Group.List.Basic
import Mathlib.Tactic.Ring
import Mathlib.Data.List.Sort
namespace QM

def evalElem (ν : Nat → ℚ) : Elem → ℚ
  | .num q => q
  | .atom a => ν a

/-- denoted value of an item list: `∏ elemᵢ ^ expᵢ` -/
def den (ν : Nat → ℚ) (items : Items) : ℚ :=
  (items.map fun it => evalElem ν it.1 ^ it.2).prod

/-- a valuation is admissible when no atom is worth zero ... -/
def NonZero (ν : Nat → ℚ) : Prop := ∀ a, ν a ≠ 0
/-- ... convertible atoms are related by their conversion factor ... -/
def Respects (env : Env) (ν : Nat → ℚ) : Prop :=
  ∀ a b f, getFactor env a b = some f → ν a = f * ν b
/-- ... and a derived atom is worth what its normalised definition denotes. -/
def RespectsDefs (env : Env) (ν : Nat → ℚ) : Prop :=
  ∀ a, (env.info a).isBase = false → ν a = den ν (env.info a).normDef

theorem getFactor_eq_some_iff {env : Env} {a₂ a₁ : Nat} {f : ℚ} :
    getFactor env a₂ a₁ = some f ↔ (env.info a₂).group = (env.info a₁).group ∧
      ∃ s₂ s₁, (env.info a₂).scale = some s₂ ∧ (env.info a₁).scale = some s₁ ∧ s₂ / s₁ = f := by
  unfold getFactor
  dsimp only
  split
  · rename_i hg
    cases (env.info a₂).scale <;> cases (env.info a₁).scale <;> simp [hg]
  · rename_i hg; simp [hg]

theorem getFactor_eq_none_of_scale {env : Env} {a₂ a₁ : Nat}
    (h : (env.info a₂).scale = none ∨ (env.info a₁).scale = none) : getFactor env a₂ a₁ = none := by
  rw [← Option.not_isSome_iff_eq_none, Option.isSome_iff_exists]
  rintro ⟨f, hf⟩
  obtain ⟨-, s₂, s₁, h₂, h₁, -⟩ := getFactor_eq_some_iff.mp hf
  rcases h with h | h <;> simp_all

@[simp] theorem den_nil (ν) : den ν [] = 1 := rfl
@[simp] theorem den_cons (ν) (it : Item) (l : Items) :
    den ν (it :: l) = evalElem ν it.1 ^ it.2 * den ν l := by
  simp [den]
theorem den_append (ν) (l₁ l₂ : Items) : den ν (l₁ ++ l₂) = den ν l₁ * den ν l₂ := by
  simp [den]

theorem den_perm (ν) {l₁ l₂ : Items} (h : l₁.Perm l₂) : den ν l₁ = den ν l₂ := by
  unfold den; exact (h.map _).prod_eq

theorem den_filter (ν) (items : Items) : den ν (filterItems items) = den ν items := by
  induction items with
  | nil => rfl
  | cons it rest ih =>
    simp only [filterItems, List.filter_cons] at ih ⊢
    split
    · simp [ih]
    · rename_i h
      obtain h | h : it.2 = 0 ∨ it.1 = .num 1 := by simpa [imp_iff_not_or] using h
      all_goals simp [ih, h, evalElem]

theorem den_reciprocal (ν) (items : Items) : den ν (reciprocalItems items) = (den ν items)⁻¹ := by
  induction items with
  | nil => simp [reciprocalItems]
  | cons it rest ih =>
    unfold reciprocalItems at *
    simp only [List.map_cons, den_cons, ih, zpow_neg, mul_inv]

theorem sortKeyed_eq (l : List (Int × Item)) :
    sortKeyed l = l.insertionSort (fun a b => a.1 ≤ b.1) := by
  have ins (x) (l : List (Int × Item)) :
      sortKeyed.insertKeyed' x l = l.orderedInsert (fun a b => a.1 ≤ b.1) x := by
    induction l with
    | nil => rfl
    | cons y ys ih => simp only [sortKeyed.insertKeyed', List.orderedInsert_cons, ih]
  induction l with
  | nil => rfl
  | cons x xs ih => rw [sortKeyed, ins, ih, List.insertionSort_cons]

local instance : Std.Total (fun a b : Int × Item => a.1 ≤ b.1) := ⟨fun a b => Int.le_total a.1 b.1⟩
local instance : IsTrans (Int × Item) (fun a b => a.1 ≤ b.1) := ⟨fun _ _ _ => Int.le_trans⟩

theorem sortKeyed_perm (l : List (Int × Item)) : (sortKeyed l).Perm l :=
  sortKeyed_eq l ▸ List.perm_insertionSort _ l

theorem sortKeyed_sorted (l : List (Int × Item)) :
    (sortKeyed l).Pairwise (fun a b => a.1 ≤ b.1) :=
  sortKeyed_eq l ▸ List.pairwise_insertionSort _ l

theorem sortKeyed_of_sorted (l : List (Int × Item))
    (h : l.Pairwise (fun a b => a.1 ≤ b.1)) : sortKeyed l = l :=
  (sortKeyed_eq l).trans h.insertionSort_eq

theorem firstIdxKeys_snd (env : Env) (items : Items) (idx : Nat) (seen) :
    (firstIdxKeys env items idx seen).map Prod.snd = items := by
  induction items generalizing idx seen with
  | nil => rfl
  | cons it rest ih =>
    unfold firstIdxKeys
    simp only
    split <;> simp [ih]

theorem attachKeys_snd (env : Env) (items : Items) (keep : Bool) :
    (attachKeys env items keep).map Prod.snd = items := by
  unfold attachKeys
  split
  · exact firstIdxKeys_snd ..
  · simp [List.map_map, Function.comp_def]

def numPrefix (q : Rat) : Items := if q != 1 then [(Elem.num q, 1)] else []

/-- the sequential pass of the general path, over the sorted keyed items -/
abbrev pass (env : Env) (items : Items) (keep : Bool) : RState :=
  (sortKeyed (attachKeys env items keep)).foldl (reduceStep env) ⟨1, [], 0, []⟩

theorem reduceGeneral_eq (env : Env) (items : Items) (keep : Bool) :
    reduceGeneral env items keep =
      numPrefix (pass env items keep).num ++ atomItems (closeGroup (pass env items keep)) := by
  unfold reduceGeneral numPrefix
  dsimp only
  split <;> rfl

/-- `l'` arises from `l` by the laws `_reduce_items` applies: reordering; a
numeric 1 put in or an item equivalent to 1 left out; two numeric items
multiplied; two items of one element, or of two convertible elements, merged. -/
inductive Rew (env : Env) : Items → Items → Prop
  | perm {l l'} : l.Perm l' → Rew env l l'
  | trans {l₁ l₂ l₃} : Rew env l₁ l₂ → Rew env l₂ l₃ → Rew env l₁ l₃
  | append {l₁ l₁' l₂ l₂'} : Rew env l₁ l₁' → Rew env l₂ l₂' → Rew env (l₁ ++ l₂) (l₁' ++ l₂')
  | one : Rew env [] [(.num 1, 1)]
  | drop {el e} : e = 0 ∨ el = .num 1 → Rew env [(el, e)] []
  | num (q₁ e₁ q₂ e₂) :
      Rew env [(.num q₂, e₂), (.num q₁, e₁)] [(.num (rpow q₁ e₁ * rpow q₂ e₂), 1)]
  | merge (a e₁ e₂) : Rew env [(.atom a, e₂), (.atom a, e₁)] [(.atom a, e₁ + e₂)]
  | conv {a₁ a₂ c} (e₁ e₂) : a₁ ≠ a₂ → getFactor env a₂ a₁ = some c →
      Rew env [(.atom a₂, e₂), (.atom a₁, e₁)] [(.num (rpow c e₂), 1), (.atom a₁, e₁ + e₂)]

/-- the items a state of the sequential pass stands for -/
def RState.items (s : RState) : Items := (.num s.num, 1) :: atomItems (s.cur ++ s.done)

namespace Rew
variable {env : Env}

theorem refl (l : Items) : Rew env l l := .perm (.refl l)
theorem cons (x : Item) {l l'} (h : Rew env l l') : Rew env (x :: l) (x :: l') :=
  .append (refl [x]) h
theorem head {l₁ l₁'} (h : Rew env l₁ l₁') (l₂ : Items) : Rew env (l₁ ++ l₂) (l₁' ++ l₂) :=
  .append h (refl l₂)
theorem swap (x y : Item) (l : Items) : Rew env (x :: y :: l) (y :: x :: l) :=
  .perm (.swap y x l)

end Rew

section
variable {env : Env}

theorem rew_filterItems (items : Items) : Rew env items (filterItems items) := by
  induction items with
  | nil => exact .refl _
  | cons it rest ih =>
    simp only [filterItems, List.filter_cons] at ih ⊢
    split
    · exact .cons it ih
    · rename_i h
      refine .append (l₁ := [it]) (l₁' := []) (.drop ?_) ih
      simpa [imp_iff_not_or] using h

theorem rew_mergeInto (a : Nat) (e : Int) (acc : List (Nat × Int)) :
    Rew env ((.atom a, e) :: atomItems acc)
      ((.num (mergeInto env a e acc).2, 1) :: atomItems (mergeInto env a e acc).1) := by
  induction acc with
  | nil => exact .head .one _
  | cons p rest ih =>
    obtain ⟨a₁, e₁⟩ := p
    unfold mergeInto
    split
    · rename_i h; subst h
      exact (Rew.head (.merge a₁ e₁ e) _).trans (.head .one _)
    · split
      · rename_i h _ c hc
        exact .head (.conv e₁ e h hc) _
      · exact (Rew.swap _ _ _).trans ((Rew.cons _ ih).trans (.swap _ _ _))

theorem rew_closeGroup (s : RState) :
    Rew env (atomItems (s.cur ++ s.done)) (atomItems (closeGroup s)) := by
  have : atomItems (closeGroup s) = atomItems s.done ++ filterItems (atomItems s.cur) := by
    simp [closeGroup, filterItems, atomItems, List.filter_map, Function.comp_def,
      show ∀ a, (Elem.atom a != Elem.num 1) = true from fun _ => rfl]
  rw [this, atomItems, List.map_append]
  exact (Rew.perm List.perm_append_comm).trans (.append (.refl _) (rew_filterItems _))

theorem rew_reduceStep (s : RState) (x : Int × Item) :
    Rew env (x.2 :: s.items) (reduceStep env s x).items := by
  obtain ⟨k, el, e⟩ := x
  cases el with
  | num q => simpa [RState.items, reduceStep, rpow_one] using Rew.head (.num s.num 1 q e) _
  | atom a =>
    refine (Rew.swap _ _ _).trans ?_
    unfold reduceStep
    dsimp only
    split
    · -- same key: merge into the open group, then multiply the factor it yields into `s.num`
      have := (Rew.cons (.num s.num, 1) (Rew.head (rew_mergeInto (env := env) a e s.cur)
        (atomItems s.done))).trans (.head (.num _ 1 _ 1) _)
      simpa [RState.items, atomItems, rpow_one, mul_comm] using this
    · -- another key: close the open group, the item starts the next one
      exact .cons _ (.cons _ (rew_closeGroup s))

theorem rew_foldl (L : List (Int × Item)) (s : RState) :
    Rew env (L.map Prod.snd ++ s.items) (L.foldl (reduceStep env) s).items := by
  induction L generalizing s with
  | nil => exact .refl _
  | cons x r ih =>
    exact (Rew.perm List.perm_middle.symm).trans ((Rew.append (.refl _) (rew_reduceStep s x)).trans (ih _))

theorem rew_numPrefix (q : ℚ) : Rew env [(.num q, 1)] (numPrefix q) := by
  unfold numPrefix
  split
  · exact .refl _
  · exact .drop (.inr (by simp_all))

theorem rew_reduceGeneral (env : Env) (items : Items) (keep : Bool) :
    Rew env items (reduceGeneral env items keep) := by
  rw [reduceGeneral_eq]
  have hperm : items.Perm ((sortKeyed (attachKeys env items keep)).map Prod.snd ++ []) := by
    simpa [attachKeys_snd] using ((sortKeyed_perm (attachKeys env items keep)).map Prod.snd).symm
  exact (Rew.perm hperm).trans <| (Rew.append (.refl _) .one).trans <|
    (rew_foldl _ ⟨1, [], 0, []⟩).trans <| .append (rew_numPrefix _) (rew_closeGroup _)

theorem rew_reduceItems (env : Env) (items : Items) (n : Option Nat) (keep : Bool) :
    Rew env items (reduceItems env items n keep) := by
  unfold reduceItems
  split
  · exact rew_filterItems _
  · exact rew_filterItems _
  · rename_i a₁ e₁ a₂ e₂
    refine (Rew.swap _ _ _).trans ?_
    split
    · rename_i h; subst h
      refine (Rew.merge a₁ e₁ e₂).trans ?_
      split
      · exact .drop (.inl ‹_›)
      · exact .refl _
    · split
      · rename_i h _ c hc
        exact (Rew.conv e₁ e₂ h hc).trans (rew_filterItems _)
      · split
        · exact (Rew.swap _ _ _).trans (rew_filterItems _)
        · split
          · exact rew_filterItems _
          · exact (Rew.swap _ _ _).trans (rew_filterItems _)
  · exact (Rew.swap _ _ _).trans (rew_filterItems _)
  · rename_i q₁ e₁ q₂ e₂
    exact (Rew.swap _ _ _).trans ((Rew.num q₁ e₁ q₂ e₂).trans (rew_numPrefix _))
  · exact rew_reduceGeneral env items keep

theorem rew_mkTerm (env : Env) (items : Items) : Rew env items (mkTerm env items) := by
  unfold mkTerm
  split
  · rename_i h; rw [List.isEmpty_iff.mp h]; exact .refl _
  · exact rew_reduceItems ..

end

theorem Rew.den {env : Env} {ν : Nat → ℚ} (hν : NonZero ν) (hr : Respects env ν) {l l' : Items}
    (h : Rew env l l') : den ν l' = den ν l := by
  induction h with
  | perm h => exact (den_perm ν h).symm
  | trans _ _ ih₁ ih₂ => exact ih₂.trans ih₁
  | append _ _ ih₁ ih₂ => rw [den_append, den_append, ih₁, ih₂]
  | one => simp [evalElem]
  | drop h => rcases h with rfl | rfl <;> simp [evalElem]
  | num => simp [evalElem, rpow_eq_zpow, mul_comm]
  | merge a => simp [evalElem, zpow_add₀ (hν a), mul_comm]
  | @conv a₁ a₂ c e₁ e₂ _ hc =>
    simp only [den_cons, den_nil, evalElem, rpow_eq_zpow, hr a₂ a₁ c hc, zpow_add₀ (hν a₁),
      mul_zpow, zpow_one]
    ring

/-- `_reduce_items` preserves the denoted value on every path (all `n_items`
shortcuts, both `keep_item_order` modes). -/
theorem den_reduceItems (env : Env) (ν) (hν : NonZero ν) (hr : Respects env ν)
    (items : Items) (n : Option Nat) (keep : Bool) :
    den ν (reduceItems env items n keep) = den ν items :=
  (rew_reduceItems env items n keep).den hν hr

theorem den_mkTerm (env : Env) (ν) (hν : NonZero ν) (hr : Respects env ν) (items : Items) :
    den ν (mkTerm env items) = den ν items :=
  (rew_mkTerm env items).den hν hr

theorem den_splitTerm (env : Env) (ν) (hν : NonZero ν) (hr : Respects env ν) (t : Items) :
    (splitTerm env t).1 * den ν (splitTerm env t).2 = den ν t := by
  unfold splitTerm
  match t with
  | [] => simp [numElem]
  | (.atom a, e) :: rest => simp [numElem]
  | (.num q, e) :: rest =>
    simp only [numElem, List.tail_cons, den_mkTerm env ν hν hr, den_cons, evalElem, rpow_eq_zpow]

theorem den_map_exp (ν) (items : Items) (f : Int → Int) (n : Int) (hf : ∀ e, f e = e * n) :
    den ν (items.map fun (b, be) => (b, f be)) = den ν items ^ n := by
  induction items with
  | nil => simp
  | cons it rest ih => rw [List.map_cons, den_cons, ih, den_cons, mul_zpow, ← zpow_mul, ← hf]

theorem den_flatMap (ν) (f : Item → Items) (items : Items)
    (h : ∀ it ∈ items, den ν (f it) = evalElem ν it.1 ^ it.2) :
    den ν (items.flatMap f) = den ν items := by
  induction items with
  | nil => simp
  | cons it rest ih =>
    rw [List.flatMap_cons, den_append, den_cons, h it (by simp),
      ih (fun x hx => h x (List.mem_cons_of_mem _ hx))]

theorem den_iterNormalized (env : Env) (ν) (hd : RespectsDefs env ν) (fuel : Nat)
    (items : Items) : den ν (iterNormalized env fuel items) = den ν items := by
  induction fuel generalizing items with
  | zero => simp [iterNormalized]
  | succ n ihf =>
    unfold iterNormalized
    apply den_flatMap
    intro ⟨el, e⟩ _
    cases el with
    | num q => simp
    | atom a =>
      simp only
      split
      · simp
      · rename_i hb
        simp only [Bool.not_eq_true] at hb
        rw [ihf, den_map_exp ν _ (· * e) e fun _ => rfl, ← hd a hb]; simp [evalElem]

/-- `Term.normalized()` preserves the denoted value. -/
theorem den_normalizedItems (env : Env) (ν) (hν : NonZero ν) (hr : Respects env ν)
    (hd : RespectsDefs env ν) (items : Items) :
    den ν (normalizedItems env items) = den ν items := by
  unfold normalizedItems
  rw [(rew_reduceGeneral env _ false).den hν hr, den_iterNormalized env ν hd]

theorem den_termNormalized (env : Env) (ν) (hν : NonZero ν) (hr : Respects env ν)
    (hd : RespectsDefs env ν) (items : Items) :
    den ν (termNormalized env items) = den ν items := by
  unfold termNormalized
  split
  · rfl
  · exact den_normalizedItems env ν hν hr hd items

end QM
